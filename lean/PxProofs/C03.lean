import PxModel.DrvParser
import PxProofs.ChunkLemmas
import PxProofs.ParserCompletion
/-!
# C03 — incremental HTTP parsing does not depend on how input is segmented

The models (`PxModel/Chunk.lean`, `PxModel/Parser.lean`) are tied to
`proxy/http/parser/chunk.py` / `parser.py` by the correspondence check
`harness/c03.py`.  First the chunk decoder (`Px.Chunk`), then the parser (`Px.Parser`): `loop_done`,
`loop_succ`, `loop_fuel`, `parse_append`, `parse_wf` and `wf_init` exist in both namespaces, one for each model.
-/
namespace Px.Chunk

/-- the standalone decoder fed one piece: `(state, remainder returned so far)` -/
def feed (s : Chunk × Bytes) (x : Bytes) : Except Err (Chunk × Bytes) :=
  match parse s.1 x with
  | .error e => .error e
  | .ok (c, r) => .ok (c, s.2 ++ r)

def feedAll (s : Chunk × Bytes) : List Bytes → Except Err (Chunk × Bytes)
  | [] => .ok s
  | x :: xs => match feed s x with
    | .error e => .error e
    | .ok s' => feedAll s' xs

/-- `feedAll` is the function the correspondence harness runs against the real `ChunkParser` -/
theorem feedAll_eq_chunkFeed (c : Chunk) (acc : Bytes) (segs : List Bytes) :
    Px.Parser.chunkFeed c acc segs = feedAll (c, acc) segs := by
  induction segs generalizing c acc with
  | nil => rfl
  | cons x xs ih =>
    simp only [Px.Parser.chunkFeed, feedAll, feed]
    cases parse c x with
    | error e => rfl
    | ok p => exact ih p.1 (acc ++ p.2)

/-- **C03, chunk decoder, two pieces.**  `Chunk.WF` holds of every state reachable from `init`
(`C03_chunk_wf`).  Errors included: one side raises iff the other does. -/
theorem C03_chunk_feed_append (c : Chunk) (acc a b : Bytes) (h : c.WF) :
    feed (c, acc) (a ++ b) = (feed (c, acc) a).bind (fun s => feed s b) := by
  simp only [feed, parse_append (h.live a) b, andThen]
  cases parse c a with
  | error e => rfl
  | ok p =>
    obtain ⟨c', r⟩ := p
    simp only [Except.bind]
    cases parse c' b with
    | error e => rfl
    | ok q => simp [List.append_assoc]

/-- `Chunk.WF` is an invariant; bytes are handed back only by a decoder that is complete -/
theorem C03_chunk_wf : init.WF ∧ ∀ (c : Chunk) (acc x : Bytes) (c' : Chunk) (acc' : Bytes), c.WF →
    feed (c, acc) x = .ok (c', acc') → c'.WF ∧ (acc' ≠ acc → c'.state = .complete) := by
  refine ⟨wf_init, ?_⟩
  intro c acc x c' acc' h hf
  simp only [feed] at hf
  cases hp : parse c x with
  | error e => simp [hp] at hf
  | ok p =>
    obtain ⟨c1, r⟩ := p
    simp only [hp, Except.ok.injEq, Prod.mk.injEq] at hf
    obtain ⟨rfl, rfl⟩ := hf
    obtain ⟨h1, h2⟩ := parse_wf (h.live x) hp
    exact ⟨h1, fun hne => h2 (fun hr => hne (by simp [hr]))⟩

/-- **C03, chunk decoder, any segmentation** (empty pieces included). -/
theorem C03_chunk_segmentation (c : Chunk) (acc : Bytes) (segs : List Bytes) (x : Bytes) (h : c.WF)
    (hx : segs.flatten = x) : feedAll (c, acc) segs = feed (c, acc) x := by
  subst hx
  induction segs generalizing c acc with
  | nil => simp [feedAll, feed, parse_done]
  | cons a rest ih =>
    rw [List.flatten_cons, C03_chunk_feed_append c acc a _ h, feedAll]
    cases hf : feed (c, acc) a with
    | error e => rfl
    | ok s' =>
      obtain ⟨c', acc'⟩ := s'
      exact ih c' acc' (C03_chunk_wf.2 c acc a c' acc' h hf).1

/-- **C03, chunk decoder, exact completion.**  `ChunkedStream`: the size text is anything
`int(·, 16)` accepts, optional `;extension`; trailer fields are *not* part of the grammar — the
decoder does not support them.  After any strict prefix of `render s` the decoder has not raised
and is not complete. -/
theorem C03_chunk_exact_completion (s : ChunkedStream) (hv : s.Valid) (t : Bytes) :
    feed (init, []) (s.render ++ t) =
      .ok ({ state := .complete, body := s.decoded, chunk := [], size := none }, t) ∧
    ∀ p q, s.render = p ++ q → q ≠ [] →
      ∃ c r, feed (init, []) p = .ok (c, r) ∧ c.state ≠ .complete := by
  constructor
  · simp only [feed, parse_stream s hv init rfl rfl t]
    simp [init]
  · intro p q hpq hq
    have hw := parse_stream s hv init rfl rfl []
    rw [List.append_nil, hpq, parse_append (wf_init.live p) q] at hw
    simp only [feed]
    cases hp : parse init p with
    | error e => simp [hp, andThen] at hw
    | ok pr =>
      obtain ⟨c', r⟩ := pr
      refine ⟨c', [] ++ r, rfl, ?_⟩
      intro hc
      rw [hp, andThen_complete hc] at hw
      simp only [Except.ok.injEq, Prod.mk.injEq, List.append_eq_nil_iff] at hw
      exact hq hw.2.2

/-! non-vacuity of the hypotheses -/

/-- a reachable, non-initial well-formed state (2 of 5 data bytes received) -/
example : ({ state := .waitingForData, size := some 5, chunk := [104, 105], body := [120] } : Chunk).WF :=
  fun _ => ⟨5, rfl, by decide⟩
/-- a held-back stash is well-formed too -/
example : ({ state := .waitingForSize, chunk := [48, 13] } : Chunk).WF := fun h => by simp at h

/-- `5\r\nhello\r\nA;x=1\r\n0123456789\r\n0\r\n\r\n` -/
example : (ChunkedStream.chunk [53] [] [104, 101, 108, 108, 111]
    (.chunk [65] [59, 120, 61, 49] [48, 49, 50, 51, 52, 53, 54, 55, 56, 57] (.last [48] []))).Valid := by
  refine ⟨⟨by decide, by decide, by decide, .inl rfl⟩, by decide,
    ⟨by decide, by decide, by decide, .inr (by decide)⟩, by decide,
    ⟨by decide, by decide, by decide, .inl rfl⟩⟩

/-- the sizes written by `'{:x}'.format(n)` (`natToHex`, used by `ChunkParser.to_chunks`) are size lines -/
example : SizeLine (natToHex 0) [] 0 ∧ SizeLine (natToHex 10) [] 10 ∧ SizeLine (natToHex 255) [] 255 ∧
    SizeLine (natToHex 4096) [] 4096 ∧ SizeLine (natToHex 1048575) [59, 97] 1048575 := by
  refine ⟨⟨?_, ?_, ?_, .inl rfl⟩, ⟨?_, ?_, ?_, .inl rfl⟩, ⟨?_, ?_, ?_, .inl rfl⟩, ⟨?_, ?_, ?_, .inl rfl⟩,
    ⟨?_, ?_, ?_, .inr rfl⟩⟩ <;> decide +kernel

end Px.Chunk

namespace Px.Parser

/-- **C03, carried-over bytes are unread input** — same result or same error, up to the byte
counter `total_size` (which counts `x` only). -/
theorem C03_buffer_carry (cfg : Cfg) (p : Parser) (bf x : Bytes) (hb : p.buffer = some bf) (hx : x ≠ []) :
    parse cfg p x =
      (parse cfg { p with buffer := none } (bf ++ x)).map (setTotal (p.totalSize + x.length)) :=
  buffer_carry cfg p bf x hb hx

/-- non-vacuity: a request parser that has buffered `GE` -/
example : ({ ty := .request, buffer := some [71, 69], totalSize := 2 } : Parser).buffer = some [71, 69] ∧
    ([84] : Bytes) ≠ [] := ⟨rfl, by decide⟩

/-- `HTTP/1.1 200 OK\r\nContent-Length: 2\r\n\r\nhi` -/
def exampleResponse : Bytes :=
  [72, 84, 84, 80, 47, 49, 46, 49, 32, 50, 48, 48, 32, 79, 75, 13, 10, 67, 111, 110, 116, 101, 110, 116, 45,
   76, 101, 110, 103, 116, 104, 58, 32, 50, 13, 10, 13, 10, 104, 105]

/-- **C03, well-formed parser states.**  `Parser.WF`: the invariant `Inv` of `ParserInvariant.lean`,
plus: a present buffer is non-empty. -/
theorem C03_wf (cfg : Cfg) : (∀ ty, WF (init ty)) ∧
    ∀ (p p' : Parser) (x : Bytes), WF p → parse cfg p x = .ok p' → WF p' :=
  ⟨wf_init, fun _ _ _ hw h => parse_wf cfg hw h⟩

/-- **C03, two pieces (full parser state).**  Every field of the parser, errors included: one side
raises exactly when the other does.
Excluded (`closeDelimited`): inputs after which the whole feed is inside the
body of a response that has neither `Transfer-Encoding: chunked` nor a
`Content-Length` header — there the real parser's answer legitimately depends on
where the input was cut (the body is delimited by connection close). -/
theorem C03_feed_append (cfg : Cfg) (p : Parser) (a b : Bytes) (hw : WF p)
    (hg : ∀ q, parse cfg p (a ++ b) = .ok q → closeDelimited q = false) :
    parse cfg p (a ++ b) = (parse cfg p a).bind (fun p' => parse cfg p' b) :=
  parse_append cfg a b hw hg

/-- **C03, any segmentation** (empty pieces included), under the guard of `C03_feed_append`. -/
theorem C03_segmentation (cfg : Cfg) (ty : PType) (segs : List Bytes) (x : Bytes) (hx : segs.flatten = x)
    (hg : ∀ q, parse cfg (init ty) x = .ok q → closeDelimited q = false) :
    parseAll cfg (init ty) segs = parse cfg (init ty) x := by
  subst hx; exact parseAll_flatten cfg segs (wf_init ty) hg

/-- non-vacuity of `WF`: the state after `HTTP/1.1 200 OK\r\nContent-` is well-formed, is in the
    header phase and carries a non-empty buffer -/
example : ∀ p, parse {} (init .response) (exampleResponse.take 25) = .ok p → WF p :=
  fun _ h => parse_wf {} (wf_init _) h
example : (match parse {} (init .response) (exampleResponse.take 25) with
    | .ok p => p.state == .lineRcvd && p.buffer == some (exampleResponse.take 25 |>.drop 17)
    | .error _ => false) = true := by decide +kernel

/-- non-vacuity of the guard: a Content-Length response is not close-delimited (and complete) -/
example : ∀ q, parse {} (init .response) exampleResponse = .ok q → closeDelimited q = false := by
  have h : (match parse {} (init .response) exampleResponse with
      | .ok q => q.state == .complete && !closeDelimited q
      | .error _ => false) = true := by decide +kernel
  intro q hq
  rw [hq] at h
  simp only [Bool.and_eq_true, Bool.not_eq_true'] at h
  exact h.2

/-- for request parsers no input is excluded -/
theorem C03_segmentation_request (cfg : Cfg) (segs : List Bytes) (x : Bytes) (hx : segs.flatten = x) :
    parseAll cfg (init .request) segs = parse cfg (init .request) x :=
  C03_segmentation cfg .request segs x hx
    (fun _ hq => closeDelimited_request (parse_ty cfg hq))

theorem C03_segmentation_from (cfg : Cfg) (p : Parser) (segs : List Bytes) (hw : WF p)
    (hg : ∀ q, parse cfg p segs.flatten = .ok q → closeDelimited q = false) :
    parseAll cfg p segs = parse cfg p segs.flatten :=
  parseAll_flatten cfg segs hw hg

/-- **C03, exact completion.**  `Msg.Valid`: request line `method SP target SP version` whose target
`Url.from_bytes` accepts, or status line `version SP code SP reason`; clean header fields
`name: value` other than the framing headers; framing by `Content-Length: n` + `n` body bytes
(the text of `n` being anything `int()` reads as `n`), by `Transfer-Encoding: chunked` + a valid
chunked stream (no trailers), or — requests only — no body.  Fed any strict prefix of `render m`
the parser neither raises nor is `COMPLETE`.  (With `C03_segmentation` the same holds for every
way of cutting the input.) -/
theorem C03_exact_completion (cfg : Cfg) (m : Msg) (hv : m.Valid cfg) (t : Bytes) :
    (∃ q, parse cfg (init m.ty) (m.render ++ t) = .ok q ∧ q.state = .complete ∧
      q.body = m.body.decoded ∧ q.buffer = (if t.isEmpty then none else some t)) ∧
    ∀ p s, m.render = p ++ s → s ≠ [] →
      ∃ q', parse cfg (init m.ty) p = .ok q' ∧ q'.state ≠ .complete := by
  have hne : ∀ t, m.render ++ t ≠ [] := fun t => by simp [Msg.render, CRLF]
  have key : ∀ t, ∃ q, parse cfg (init m.ty) (m.render ++ t) = .ok q ∧ q.state = .complete ∧
      q.body = m.body.decoded ∧ q.buffer = (if t.isEmpty then none else some t) := by
    intro t
    obtain ⟨Q, hgo, hst, hbd⟩ := go_msg cfg m hv t
    refine ⟨putBack (m.render ++ t).length (Q, t), ?_, hst, hbd, rfl⟩
    rw [parse_init_nonempty cfg _ (hne t), hgo]; rfl
  refine ⟨key t, ?_⟩
  obtain ⟨q, hq, hst, _, hbuf⟩ := key []
  rw [List.append_nil] at hq
  exact no_prefix_complete cfg (wf_init m.ty) hq hst (by simpa using hbuf)

/-- **C03, exact completion, header-less status line** (e.g. `HTTP/1.1 200 Connection established`).
No tail: what would follow is a close-delimited body. -/
theorem C03_exact_completion_statusline (cfg : Cfg) (line : Bytes) (hsl : StartLine cfg .response line) :
    (∃ q, parse cfg (init .response) (line ++ CRLF ++ CRLF) = .ok q ∧ q.state = .complete ∧
      q.buffer = none) ∧
    ∀ p s, line ++ CRLF ++ CRLF = p ++ s → s ≠ [] →
      ∃ q', parse cfg (init .response) p = .ok q' ∧ q'.state ≠ .complete := by
  obtain ⟨Q, hgo, hst⟩ := go_statusLine cfg hsl
  have hq : parse cfg (init .response) (line ++ CRLF ++ CRLF) =
      .ok (putBack (line ++ CRLF ++ CRLF).length (Q, [])) := by
    rw [parse_init_nonempty cfg _ (by simp [CRLF]), hgo]; rfl
  exact ⟨⟨_, hq, hst, rfl⟩, no_prefix_complete cfg (wf_init _) hq hst rfl⟩

/-! non-vacuity: `POST /u HTTP/1.1`, `Host: a`, chunked body `1\r\nX\r\n0\r\n\r\n`
    (the target is accepted by `Url.fromBytes`: it starts with a single `/`) -/
example : (Msg.mk .request [80, 79, 83, 84, 32, 47, 117, 32, 72, 84, 84, 80, 47, 49, 46, 49]
    [([72, 111, 115, 116], [97])] (.chunked (.chunk [49] [] [88] (.last [48] [])))).Valid {} := by
  refine ⟨⟨by decide +kernel, [80, 79, 83, 84], [47, 117], [72, 84, 84, 80, 47, 49, 46, 49], rfl, by decide +kernel,
    by decide +kernel, fun _ => ⟨by decide +kernel, _, rfl⟩⟩, ?_, ?_⟩
  · intro kv hkv
    simp only [List.mem_singleton] at hkv
    subst hkv
    exact ⟨⟨by decide +kernel, by decide +kernel, by decide +kernel, by decide +kernel, by decide +kernel⟩,
      by rw [b_ofList]; decide +kernel, by rw [b_ofList]; decide +kernel⟩
  · exact ⟨⟨by decide +kernel, by decide +kernel, by decide +kernel, .inl rfl⟩, by decide +kernel, ⟨by decide +kernel, by decide +kernel, by decide +kernel, .inl rfl⟩⟩

/-- `HTTP/1.1 200 OK`, `Content-Length: 2`, body `hi` -/
example : (Msg.mk .response [72, 84, 84, 80, 47, 49, 46, 49, 32, 50, 48, 48, 32, 79, 75] []
    (.cl [50] [104, 105])).Valid {} := by
  refine ⟨⟨by decide +kernel, [72, 84, 84, 80, 47, 49, 46, 49], [50, 48, 48], [79, 75], rfl, by decide +kernel, by decide +kernel,
    fun h => by simp at h⟩, fun kv h => by simp at h, ?_, by decide +kernel⟩
  rw [b_ofList]
  exact ⟨by decide +kernel, by decide +kernel, by decide +kernel, by decide +kernel, by decide +kernel⟩

/-- `HTTP/1.1 200 Connection established` is a status line -/
example : StartLine {} .response ([72, 84, 84, 80, 47, 49, 46, 49, 32, 50, 48, 48, 32] ++
    [67, 111, 110, 110, 101, 99, 116, 105, 111, 110, 32, 101, 115, 116, 97, 98, 108, 105, 115, 104, 101, 100]) :=
  ⟨by decide +kernel, [72, 84, 84, 80, 47, 49, 46, 49], [50, 48, 48], _, rfl, by decide +kernel, by decide +kernel, fun h => by simp at h⟩

end Px.Parser

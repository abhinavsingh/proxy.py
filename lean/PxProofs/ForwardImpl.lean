import PxProofs.ForwardParse
import PxProofs.ChunkCodec
/-!
# C02: the emitted request as a `Req`, and `buildFor … = render (fwdImpl …)`
-/
namespace Px.Forward

open Px.Parser Px.Build

/-- the layout `ChunkParser.to_chunks(body, size)` writes -/
def rechunkAux (size : Nat) : Nat → Bytes → List ChunkSpec
  | 0, _ => []
  | fuel + 1, raw =>
    if raw.isEmpty then []
    else { sz := natToHex (raw.take size).length, ext := [], data := raw.take size } ::
      rechunkAux size fuel (raw.drop size)

def rechunk (size : Nat) (body : Bytes) : List ChunkSpec := rechunkAux size body.length body

theorem toStream_rechunkAux (size fuel : Nat) (raw : Bytes) :
    toStream (rechunkAux size fuel raw) [48] [] = Px.Codec.chunksOf size fuel raw := by
  induction fuel generalizing raw with
  | zero => rfl
  | succ fuel ih =>
    by_cases he : raw.isEmpty = true
    · simp [rechunkAux, Px.Codec.chunksOf, he, toStream]
    · simp only [rechunkAux, Px.Codec.chunksOf, he, Bool.false_eq_true, if_false, toStream, ih]

theorem toChunks_rechunk (body : Bytes) (size : Nat) (h : size ≠ 0) :
    Px.Chunk.toChunks body size = .ok (renderChunks (rechunk size body) ++ ([48] ++ [] ++ CRLF ++ CRLF)) := by
  rw [Px.Codec.toChunks_render body size h, ← toStream_rechunkAux, toStream_render]; rfl

def keptDict (first : Bool) (cfg : Cfg) (r : Req) : HDict :=
  ((treatedMap first cfg (entries r.fields)).filter (fun e => !cfg.disable.contains e.1)).map (·.2)

/-- `keptDict` plus the `Content-Length` that `build_http_request` sets -/
def implDict (first : Bool) (cfg : Cfg) (r : Req) : HDict :=
  if r.framing.isCL && !r.body.isEmpty then dSet (keptDict first cfg r) nCL (natToDec r.body.length)
  else keptDict first cfg r

/-- the request the proxy writes to the origin, as specification-side data -/
def fwdImpl (first : Bool) (cfg : Cfg) (r : Req) : Req :=
  { method := r.method
    target := originTarget r.target
    version := r.version
    fields := (implDict first cfg r).map (fun e => { name := e.1, pre := [SP], value := e.2, post := [] })
    body := r.body
    framing := match r.framing with
      | .chunked _ _ _ => .chunked (rechunk cfg.bufSize r.body) [48] []
      | .none => .none
      | .contentLength => .contentLength }

theorem renderFields_of_dict (hd : HDict) :
    renderFields (hd.map (fun e => ({ name := e.1, pre := [SP], value := e.2, post := [] } : Field))) =
      renderDict hd := by
  induction hd with
  | nil => rfl
  | cons e rest ih =>
    simp only [renderFields, renderDict, List.map_cons, List.flatten_cons] at ih ⊢
    rw [ih]
    simp [renderField, buildHeader]

theorem entries_getD (r : Req) {P : Parser}
    (h : P.headers = (if r.fields = [] then none else some (entries r.fields))) :
    P.headers.getD [] = entries r.fields := by
  rw [h]
  by_cases he : r.fields = []
  · simp [he, entries]
  · simp [he]

theorem keptDict_any (first : Bool) (cfg : Cfg) (r : Req) (hn : (r.fields.map (fun f => lower f.name)).Nodup)
    {k : Bytes} (hd : cfg.disable.contains k = false) (h1 : k ≠ lower cfg.proxyAuthorization)
    (h2 : k ≠ lower cfg.proxyConnection) (h3 : viaLower ≠ k) :
    (keptDict first cfg r).any (fun e => lower e.1 == k) = r.fields.any (nameIs k) := by
  rw [Bool.eq_iff_iff, List.any_eq_true, List.any_eq_true]
  constructor
  · rintro ⟨e, he, hek⟩
    simp only [keptDict, List.mem_map, List.mem_filter] at he
    obtain ⟨x, ⟨hx, _⟩, rfl⟩ := he
    rw [← (hdrInv_treatedMap first cfg (hdrInv_entries r.fields hn)).2 x hx, beq_iff_eq] at hek
    rcases mem_treatedMap hx with hv | ⟨hmem, _, _⟩
    · exact absurd (hv.symm.trans hek) h3
    · simp only [entries, List.mem_map] at hmem
      obtain ⟨f, hf, rfl⟩ := hmem
      exact ⟨f, hf, by simpa [nameIs] using hek⟩
  · rintro ⟨f, hf, hfk⟩
    simp only [nameIs, beq_iff_eq] at hfk
    refine ⟨(f.name, f.value), ?_, by simp [hfk]⟩
    simp only [keptDict, List.mem_map, List.mem_filter]
    refine ⟨(lower f.name, (f.name, f.value)), ⟨?_, by simp only [hfk, hd, Bool.not_false]⟩, rfl⟩
    apply mem_treatedMap_of
    · simp only [entries, List.mem_map]; exact ⟨f, hf, rfl⟩
    · rw [hfk]; exact h1
    · rw [hfk]; exact h2
    · rw [hfk]; exact fun h => h3 h.symm

/-- the payload `_get_body_or_chunks` hands to `build_http_request` for a parser holding `r` -/
def sentBody (cfg : Cfg) (r : Req) : Option Bytes :=
  match r.framing with
  | .none => none
  | .contentLength => if r.body.isEmpty then none else some r.body
  | .chunked .. => some (renderChunks (rechunk cfg.bufSize r.body) ++ ([48] ++ [] ++ CRLF ++ CRLF))

theorem bodyOrChunks_parsed (cfg : Cfg) (hb : cfg.bufSize ≠ 0) (r : Req) {p : Parser}
    (hbody : p.body = parsedBody r) (hch : p.isChunked = r.framing.isChunked) :
    bodyOrChunks cfg.bufSize p = .ok (sentBody cfg r) := by
  unfold bodyOrChunks
  rw [hbody, hch]
  unfold parsedBody sentBody
  cases r.framing with
  | none => rfl
  | contentLength => cases r.body.isEmpty <;> rfl
  | chunked cs lsz lext => simp only [Framing.isChunked, if_true, toChunks_rechunk r.body cfg.bufSize hb]

theorem renderBody_fwdImpl (first : Bool) (cfg : Cfg) (r : Req) :
    renderBody (fwdImpl first cfg r) = (sentBody cfg r).getD [] := by
  unfold renderBody fwdImpl sentBody
  cases r.framing with
  | none => rfl
  | contentLength => cases r.body <;> rfl
  | chunked cs lsz lext => rfl

/-- with a chunked body the client's Transfer-Encoding field is still there, so no `Content-Length`
    is added -/
theorem finalDict_keptDict (first : Bool) (cfg : Cfg) (hcfg : CfgOk cfg) (r : Req)
    (hn : (r.fields.map (fun f => lower f.name)).Nodup) (hfr : framingOk r = true) :
    finalDict (keptDict first cfg r) (sentBody cfg r) = implDict first cfg r := by
  have hk := hcfg.2 teName (by simp)
  have hte := keptDict_any first cfg r hn hk.1 hk.2.1 hk.2.2 viaLower_ne_te
  unfold finalDict implDict sentBody
  rw [hte]
  cases hf : r.framing with
  | none => rfl
  | contentLength =>
    cases hb : r.body.isEmpty with
    | true => rfl
    | false => simp only [(framingOk_cl hfr hf).1, hb, Framing.isCL, Bool.not_false, Bool.and_self, if_true,
        Option.getD_some, Bool.false_eq_true, if_false]
  | chunked cs lsz lext =>
    obtain ⟨-, ⟨f, hfm, hfte, -⟩, -⟩ := framingOk_chunked hfr hf
    have : r.fields.any (nameIs teName) = true := List.any_eq_true.2 ⟨f, hfm, hfte⟩
    simp only [this, Bool.not_true, Bool.and_false, Bool.false_eq_true, if_false, Framing.isCL, Bool.false_and]

theorem emit_eq (first : Bool) (cfg : Cfg) (hcfg : CfgOk cfg) (r : Req) (hwf : r.WF)
    {host : Bytes} {port : Option Bytes} {pq : Bytes} (ht : r.target = .absolute host port pq)
    {P : Parser} (hP : Parsed r host pq P) :
    buildFor cfg (if first then treatFirst cfg P else treatLater cfg P) = .ok (render (fwdImpl first cfg r)) := by
  obtain ⟨hmtok, _, _, hver, _, hnodup, hfr⟩ := hwf
  have hpinv : PInv P := by
    unfold PInv; rw [entries_getD r hP.headers]; exact hdrInv_entries _ hnodup
  have hdict : headerDict (if first then treatFirst cfg P else treatLater cfg P) cfg.disable = keptDict first cfg r := by
    rw [headerDict_of_inv _ _ (pinv_treated first cfg hpinv), treated_headers, entries_getD r hP.headers]; rfl
  obtain ⟨H, hH⟩ : ∃ H, (if first then treatFirst cfg P else treatLater cfg P) = { P with headers := H } := by
    cases first
    · exact ⟨_, treatLater_eq cfg P⟩
    · exact ⟨_, treatFirst_eq cfg P⟩
  have hpath : Px.Codec.pathOf { P with headers := H } = if pq.isEmpty then [SLASH] else pq := by
    unfold Px.Codec.pathOf
    rw [show ({ P with headers := H } : Parser).path = _ from hP.path]
    cases pq <;> rfl
  rw [buildFor_eq cfg _ (m := r.method) (v := r.version) (by rw [hH]; exact hP.method) (tokenOk_iff.1 hmtok).1
      (by rw [hH]; exact hP.version) (version_facts hver).1 (by rw [hH]; exact hP.ty),
    hdict, hH, bodyOrChunks_parsed cfg hcfg.1 r (p := { P with headers := H }) hP.body hP.chunked, hpath]
  dsimp only
  rw [finalDict_keptDict first cfg hcfg r hnodup hfr, ← renderFields_of_dict, ← renderBody_fwdImpl first]
  simp only [render, requestLine, fwdImpl, ht, originTarget, renderTarget]

end Px.Forward

import PxProofs.PersistSeg
import PxProofs.ForwardLemmas
/-!
# C04: the forward proxy on a stream of requests, any packing

`segRun_stream`: on segments that cut a first request (`FirstOk`) and follow-ups (`LaterAll`) anywhere,
`segRun` ends between requests with one connect and every forwarded request queued, in order.
-/
namespace Px.Persist
open Px Px.Relay Px.Parser Px.Forward

theorem treatLater_withTotal (cfg : Forward.Cfg) (P : Parser) (n : Nat) :
    treatLater cfg (withTotal P n) = withTotal (treatLater cfg P) n := by
  rw [treatLater_eq, treatLater_eq]; rfl

theorem buildFor_withTotal (cfg : Forward.Cfg) (Q : Parser) (n : Nat) :
    buildFor cfg (withTotal Q n) = buildFor cfg Q := rfl

theorem buildFor_setBuffer (cfg : Forward.Cfg) (Q : Parser) (b : Option Bytes) :
    buildFor cfg { Q with buffer := b } = buildFor cfg Q := by
  cases Q; rfl

theorem isUpgrade_withTotal (Q : Parser) (n : Nat) : isUpgrade (withTotal Q n) = isUpgrade Q := rfl

theorem treatFirst_withTotal (cfg : Forward.Cfg) (P : Parser) (n : Nat) (b : Option Bytes) :
    treatFirst cfg ({ (withTotal P n) with buffer := b }) = { (withTotal (treatFirst cfg P) n) with buffer := b } := by
  rw [treatFirst_eq, treatFirst_eq]; rfl

theorem firstComplete_withTotal (cfg : Forward.Cfg) (ok : Bool) (P : Parser) (n : Nat) (b : Option Bytes) :
    firstComplete cfg ok ({ (withTotal P n) with buffer := b }) = firstComplete cfg ok P := by
  unfold firstComplete
  rw [treatFirst_withTotal, buildFor_setBuffer, buildFor_withTotal]
  rfl

/-- `x` is one request, which as first of its connection connects to `a` and queues `q` for the upstream -/
def FirstOk (cfg : Forward.Cfg) (ok : Bool) (x : Bytes) (P : Parser) (a : Connect.Addr) (q : Bytes) : Prop :=
  oneReq x = some P ∧ firstComplete cfg ok P = .established a q

/-- `x` is one request, which as follow-up is forwarded as `q` and is no protocol switch -/
def LaterOk (cfg : Forward.Cfg) (x : Bytes) (P : Parser) (q : Bytes) : Prop :=
  oneReq x = some P ∧ Forward.buildFor cfg (Forward.treatLater cfg P) = .ok q ∧
    isUpgrade (Forward.treatLater cfg P) = false

inductive All₂ {α β : Type} (R : α → β → Prop) : List α → List β → Prop
  | nil : All₂ R [] []
  | cons {a b as bs} : R a b → All₂ R as bs → All₂ R (a :: as) (b :: bs)

theorem All₂.exists_right {α β : Type} {R : α → β → Prop} {as : List α} {bs : List β} (h : All₂ R as bs) :
    ∀ a ∈ as, ∃ b, R a b := by
  induction h with
  | nil => simp
  | cons hr _ ih =>
    intro a ha
    rcases List.mem_cons.1 ha with rfl | h2
    · exact ⟨_, hr⟩
    · exact ih a h2

theorem All₂.split {α β : Type} {R : α → β → Prop} {a b : List α} {qs : List β} (h : All₂ R (a ++ b) qs) :
    ∃ q1 q2, qs = q1 ++ q2 ∧ All₂ R a q1 ∧ All₂ R b q2 := by
  induction a generalizing qs with
  | nil => exact ⟨[], qs, rfl, .nil, h⟩
  | cons r a ih =>
    cases h with
    | cons hr ht =>
      obtain ⟨q1, q2, e, h1, h2⟩ := ih ht
      exact ⟨_ :: q1, q2, by rw [e]; rfl, .cons hr h1, h2⟩

/-- what the follow-up loop queues for the upstream on `P`; `[]` where `buildFor` fails (not under `LaterOk`) -/
def emit (cfg : Forward.Cfg) (P : Parser) : Bytes :=
  match Forward.buildFor cfg (Forward.treatLater cfg P) with
  | .ok x => x
  | .error _ => []

def fstepL (cfg : Forward.Cfg) (s : List Bytes) (P : Parser) : List Bytes := s ++ [emit cfg P]

theorem fwd_bypass (cfg : Forward.Cfg) (s : List Bytes) (pl : Option Parser) (raw : Bytes)
    (h : ∀ p, pl = some p → p.state ≠ .complete) : (fwdHooks cfg).bypass s pl raw = none := by
  unfold fwdHooks
  cases pl with
  | none => rfl
  | some p =>
    have : (p.state == PState.complete) = false := by simpa using h p rfl
    simp [this]

theorem fwd_good (cfg : Forward.Cfg) {x : Bytes} {P : Parser} {q : Bytes} (h : LaterOk cfg x P q) (s : List Bytes)
    (n : Nat) : (fwdHooks cfg).complete s (withTotal P n) = .next (fstepL cfg s (withTotal P n)) none := by
  obtain ⟨_, hb, hu⟩ := h
  unfold fwdHooks fstepL emit
  simp only [treatLater_withTotal, buildFor_withTotal, isUpgrade_withTotal, hb, hu, Bool.false_eq_true, if_false]

theorem emit_withTotal (cfg : Forward.Cfg) {x : Bytes} {P : Parser} {q : Bytes} (h : LaterOk cfg x P q) (n : Nat) :
    emit cfg (withTotal P n) = q := by
  unfold emit
  rw [treatLater_withTotal, buildFor_withTotal, h.2.1]

def LaterAll (cfg : Forward.Cfg) (tl : Reqs) (qs : List Bytes) : Prop :=
  All₂ (fun r q => LaterOk cfg r.1 r.2 q) tl qs

theorem LaterAll.one {cfg : Forward.Cfg} {tl : Reqs} {qs : List Bytes} (h : LaterAll cfg tl qs) :
    ∀ r ∈ tl, oneReq r.1 = some r.2 := fun r hr =>
  let ⟨_, h'⟩ := h.exists_right r hr
  h'.1

theorem foldl_emit {cfg : Forward.Cfg} {rs : Reqs} {qs : List Bytes} (h : LaterAll cfg rs qs) (ns : List Nat)
    (hn : ns.length = rs.length) (s : List Bytes) :
    (handed rs ns).foldl (fstepL cfg) s = s ++ qs := by
  induction h generalizing ns s with
  | nil => cases ns <;> simp [handed]
  | cons hr _ ih =>
    cases ns with
    | nil => simp at hn
    | cons n ns =>
      simp only [handed, List.foldl_cons]
      rw [ih ns (by simpa using hn)]
      simp [fstepL, emit_withTotal cfg hr n]

theorem pipeStep_stream (cfg : Forward.Cfg) {rs : Reqs} {qs : List Bytes} (hl : LaterAll cfg rs qs)
    (d seg rest : Bytes) (pl : Option Parser) (hmid : Mid rs d pl) (hstream : d ++ seg ++ rest = stream rs) :
    ∃ (rs' : Reqs) (qd qr : List Bytes) (d' : Bytes) (pl' : Option Parser),
      qs = qd ++ qr ∧ LaterAll cfg rs' qr ∧ pipeStep cfg pl seg = (qd, pl', .ok) ∧
      Mid rs' d' pl' ∧ d' ++ rest = stream rs' := by
  obtain ⟨done, rs', ns, d', pl', f⟩ :=
    pipeLoop_stream (fwdHooks cfg) (fstepL cfg) (fun _ => True) (fwd_bypass cfg) rs hl.one
      (fun r hr s n _ => let ⟨_, h'⟩ := hl.exists_right r hr; ⟨fwd_good cfg h' s n, trivial⟩)
      d seg rest pl hmid hstream (seg.length + 1) (by omega) [] trivial
  obtain rfl := f.split
  obtain ⟨qd, qr, eq, hld, hlr⟩ := hl.split
  exact ⟨rs', qd, qr, d', pl', eq, hlr, f.loop.trans (by rw [foldl_emit hld ns f.counters]; rfl), f.mid, f.stream⟩

theorem segRun_cons_some {cfg : Forward.Cfg} {ok : Bool} {ph : Phase} {x : Bytes} {xs : List Bytes} {A : AppRes}
    (hA : appOf cfg ok ph x = A) (hs : smooth A = true) {r : Phase × Bytes × List Connect.Addr}
    (h : segRun cfg ok A.phase xs = some r) :
    segRun cfg ok ph (x :: xs) = some (r.1, items A ++ r.2.1, conns A ++ r.2.2) := by
  rw [segRun, hA, if_pos hs, h]; rfl

theorem segRun_later (cfg : Forward.Cfg) (ok : Bool) (req : Parser) (segs : List Bytes) (rs : Reqs)
    (qs : List Bytes) (hl : LaterAll cfg rs qs) (d : Bytes) (pl : Option Parser) (hmid : Mid rs d pl)
    (hstream : d ++ segs.flatten = stream rs) :
    segRun cfg ok (.http req pl) segs = some (.http req none, qs.flatten, []) := by
  induction segs generalizing rs qs d pl with
  | nil =>
    obtain ⟨rfl, rfl⟩ := stream_end hl.one hmid (by simpa using hstream)
    cases hl
    rfl
  | cons seg segs ih =>
    obtain ⟨rs', qd, qr, d', pl', rfl, hlr, e3, e4, e5⟩ :=
      pipeStep_stream cfg hl d seg segs.flatten pl hmid (by simpa [List.append_assoc] using hstream)
    have hA : appOf cfg ok (.http req pl) seg = ⟨.http req pl', .ok none none false, none, qd, none⟩ := by
      simp only [appOf, e3, endApp]
    rw [segRun_cons_some hA rfl (ih rs' qr hlr d' pl' e4 e5)]
    simp [items, conns]

theorem segRun_stream (cfg : Forward.Cfg) (ok : Bool) (x₁ : Bytes) (P₁ : Parser) (a : Connect.Addr) (q₁ : Bytes)
    (tl : Reqs) (qs : List Bytes) (h1 : FirstOk cfg ok x₁ P₁ a q₁) (hl : LaterAll cfg tl qs)
    (segs : List Bytes) (hne : ∀ seg ∈ segs, seg ≠ []) (hflat : segs.flatten = x₁ ++ stream tl) :
    ∃ req, segRun cfg ok (.first (init .request)) segs = some (.http req none, q₁ ++ qs.flatten, [a]) := by
  refine first_request h1.1 (stream tl)
    (M := fun p segs => ∃ req, segRun cfg ok (.first p) segs = some (.http req none, q₁ ++ qs.flatten, [a]))
    ?_ ?_ segs hne hflat
  · intro p seg segs p' hp' hnc ⟨req, hr⟩
    have hA : appOf cfg ok (.first p) seg = ⟨.first p', .ok none none false, none, [], none⟩ := by
      simp only [appOf, hp', hnc, if_true]
    exact ⟨req, by rw [segRun_cons_some hA rfl hr]; rfl⟩
  · -- what follows the request in its segment goes through the loop at once
    intro p seg segs n b hp' hnc hrest
    have hfc : firstComplete cfg ok { withTotal P₁ n with buffer := b } = .established a q₁ :=
      (firstComplete_withTotal cfg ok P₁ n b).trans h1.2
    cases b with
    | none =>
      have hA : appOf cfg ok (.first p) seg =
          ⟨.http { withTotal P₁ n with buffer := none } none, .ok none none false, some .http, [q₁], some a⟩ := by
        simp only [appOf, hp', hnc, Bool.false_eq_true, if_false, hfc]
      refine ⟨{ withTotal P₁ n with buffer := none }, ?_⟩
      rw [segRun_cons_some hA rfl (segRun_later cfg ok _ segs tl qs hl [] none (.idle tl) hrest)]
      simp [items, conns]
    | some c =>
      obtain ⟨rs', qd, qr, d', pl', rfl, hlr, e3, e4, e5⟩ :=
        pipeStep_stream cfg hl [] c segs.flatten none (.idle _) (by simpa using hrest)
      have hA : appOf cfg ok (.first p) seg =
          ⟨.http { withTotal P₁ n with buffer := none } pl', .ok none none false, some .http, q₁ :: qd, some a⟩ := by
        simp only [appOf, hp', hnc, Bool.false_eq_true, if_false, hfc, e3, endApp]
      refine ⟨{ withTotal P₁ n with buffer := none }, ?_⟩
      rw [segRun_cons_some hA rfl (segRun_later cfg ok _ segs rs' qr hlr d' pl' e4 e5)]
      simp [items, conns, List.append_assoc]

end Px.Persist

import PxModel.Relay
import PxProofs.ConnLemmas
import PxProofs.RelayLemmas
/-!
# C01 — relayed byte streams arrive exactly once, in order, unmodified

The model (`PxModel/Conn.lean`, `PxModel/Relay.lean`) is tied to `proxy/core/connection/connection.py`,
`proxy/core/base/tcp_server.py`, `proxy/http/handler.py` and
`proxy/http/proxy/server.py` by the correspondence check `harness/c01.py`.

All run-level theorems quantify over an arbitrary `ticks : List Tick`: every
segmentation of either direction, every subset of ready descriptors per round,
every outcome (short write, would-block, failure) of every `send` / `recv` the
proxy makes.  They speak about the state up to and including the tick in which
`handle_events` returns `True` (after it `run` stops, as the executor calls
`shutdown()`); what is still buffered at that moment is C07's subject.

Default configuration (no plugin chain, no pool, no interception).  Response
inspection is not modelled (inside `try/except` since the D14 fix, it cannot
change what is queued); for a plain-HTTP exchange the downstream direction is
the same code path as the tunnel's, so `C01_http_down` holds for every upstream
byte string whatever its framing.
-/
namespace Px.Conn

theorem C01_flush_fifo (m : Nat) (c : Conn) (o : SendOut) :
    (flush m c o).conn.buffer.flatten = c.buffer.flatten.drop (flush m c o).accepted ∧
    (flush m c o).wire = c.buffer.flatten.take (flush m c o).accepted ∧
    (∀ off, (flush m c o).offered = some off → off <+: c.buffer.flatten) ∧
    (∀ k mv rest, o = .sent k → c.buffer = mv :: rest →
      (flush m c o).accepted = min k (min (effMax m) mv.length)) := by
  refine ⟨flush_drop m c o, ?_, flush_offered_prefix m c o, ?_⟩
  · have h := flush_wire_append m c o
    have hl := wire_length m c o
    rw [← h, ← hl, List.take_left']
    rfl
  · intro k mv rest ho hb; subst ho; exact flush_accepted m c k mv rest hb

/-- **progress of one flush.**  The head element is non-empty on every established exchange
(`C01_no_empty_elements`). -/
theorem C01_progress (m : Nat) (c : Conn) (k : Nat) (h : c.buffer ≠ []) :
    pending (flush m c (.sent (k + 1))).conn < pending c ∧
    (∀ mv rest, c.buffer = mv :: rest → mv ≠ [] →
      (flush m c (.sent (k + 1))).conn.buffer.flatten.length < c.buffer.flatten.length) :=
  ⟨flush_pending_lt m c k h, fun mv rest hb hne => flush_bytes_lt m c k mv rest hb hne⟩

example : flush 2 { buffer := [[1, 2, 3], [4]] } (.sent 7) =
    ⟨{ buffer := [[3], [4]] }, some [1, 2], 2, none⟩ := by decide +kernel

end Px.Conn

namespace Px.Relay
open Px Px.Conn

/-- the start states in the shape `step_down_inv` takes: `ack` injected in a tunnel, nothing in a
plain-HTTP exchange -/
theorem initTunnelEarly_down (m : Nat) (early : Bytes) :
    (initTunnelEarly m early).kind ≠ .local ∧
      D (initTunnelEarly m early) = ack ++ (initTunnelEarly m early).recvU :=
  ⟨(fun h => nomatch (show Kind.tunnel = .local from h)), rfl⟩

theorem initHttp_down (m : Nat) (req : Bytes) :
    (initHttp m req).kind ≠ .local ∧ D (initHttp m req) = [] ++ (initHttp m req).recvU :=
  ⟨(fun h => nomatch (show Kind.http = .local from h)), rfl⟩

/-- **C01, tunnel, upstream → client**: nothing lost, duplicated, reordered or altered, and nothing but
`ack` injected. -/
theorem C01_tunnel_down (m : Nat) (ticks : List Tick) :
    (run (initTunnel m) ticks).1.sentC ++ (run (initTunnel m) ticks).1.client.buffer.flatten
      = ack ++ (run (initTunnel m) ticks).1.recvU :=
  (run_inv (step_down_inv ack) ticks _ (initTunnelEarly_down m [])).2

/-- **C01, tunnel, client → upstream**; and no exception escapes `handle_events` on a tunnel. -/
theorem C01_tunnel_up (m : Nat) (ticks : List Tick) :
    (run (initTunnel m) ticks).1.sentU ++ (run (initTunnel m) ticks).1.upstream.buffer.flatten
      = (run (initTunnel m) ticks).1.recvC ∧
    (run (initTunnel m) ticks).2 ≠ .raised := by
  obtain ⟨⟨segs, h1, h2⟩, h3⟩ := run_up ticks (initTunnel m) rfl rfl
  exact ⟨h2.trans h1.symm, h3⟩

/-- **C01, plain HTTP, upstream → client**: for every byte string the upstream sends, in any framing,
and whatever the client sends meanwhile (`Tick.app` arbitrary). -/
theorem C01_http_down (m : Nat) (req : Bytes) (ticks : List Tick) :
    (run (initHttp m req) ticks).1.sentC ++ (run (initHttp m req) ticks).1.client.buffer.flatten
      = (run (initHttp m req) ticks).1.recvU :=
  (run_inv (step_down_inv []) ticks _ (initHttp_down m req)).2

/-- **C01, only injection**: every element ever queued to the client is `ack` (tunnel only, first) or a
non-empty segment returned by an upstream `recv` of the run. -/
theorem C01_only_injection (m : Nat) (req : Bytes) (ticks : List Tick) :
    (∃ segs, (run (initTunnel m) ticks).1.queuedC = ack :: segs ∧
      ∀ b ∈ segs, b ≠ [] ∧ ∃ t ∈ ticks, t.uRecv = .data b) ∧
    (run (initTunnel m) ticks).1.queuedC.flatten = ack ++ (run (initTunnel m) ticks).1.recvU ∧
    (∀ b ∈ (run (initHttp m req) ticks).1.queuedC, b ≠ [] ∧ ∃ t ∈ ticks, t.uRecv = .data b) ∧
    (run (initHttp m req) ticks).1.queuedC.flatten = (run (initHttp m req) ticks).1.recvU := by
  obtain ⟨segs, h3, h5, h6⟩ := run_down ticks (initTunnel m) (initTunnelEarly_down m []).1
  obtain ⟨segs', g3, g5, g6⟩ := run_down ticks (initHttp m req) (initHttp_down m req).1
  refine ⟨⟨segs, h5, h6⟩, ?_, fun b hb => g6 b (by rw [g5] at hb; exact hb), ?_⟩
  · rw [h5, h3]; simp [initTunnel, st0]
  · rw [g5, g3]; rfl

theorem C01_pending_is_suffix (m : Nat) (ticks : List Tick) :
    (run (initTunnel m) ticks).1.client.buffer.flatten <:+ (run (initTunnel m) ticks).1.queuedC.flatten := by
  have h1 := C01_tunnel_down m ticks
  have h2 := (C01_only_injection m [] ticks).2.1
  rw [h2, ← h1]
  exact List.suffix_append _ _

theorem ack_ne_nil : ack ≠ [] := by decide +kernel

theorem C01_no_empty_elements (m : Nat) (req : Bytes) (ticks : List Tick) :
    (∀ e ∈ (run (initTunnel m) ticks).1.client.buffer, e ≠ []) ∧
    (∀ e ∈ (run (initHttp m req) ticks).1.client.buffer, e ≠ []) := by
  refine ⟨run_noEmpty ticks _ (initTunnelEarly_down m []).1 fun e he => ?_,
    run_noEmpty ticks _ (initHttp_down m req).1 fun e he => nomatch he⟩
  cases List.mem_singleton.mp he
  exact ack_ne_nil

theorem C01_progress_tick (s : St) (t : Tick) (hk : s.kind ≠ .local) (mv : Bytes) (rest : List Bytes)
    (hb : s.client.buffer = mv :: rest) (hne : mv ≠ []) (hw : t.cW = true) (k : Nat)
    (hs : t.cSend = .sent (k + 1)) :
    ∃ w, w ≠ [] ∧ (step s t).1.sentC = s.sentC ++ w ∧ w <+: s.client.buffer.flatten ∧
      w.length = min (k + 1) (min (effMax s.maxSend) mv.length) :=
  step_progress s t mv rest hb hne hw k hs

example : (initTunnel 0).kind ≠ .local ∧ (initTunnel 0).client.buffer = ack :: [] ∧ ack ≠ [] := by
  decide +kernel

/-- a run with two upstream segments, a 3-byte partial write and client data going up -/
example :
    let ticks : List Tick := [
      ⟨false, false, true, false, .blocking, .data [1, 2], .blocking, .blocking, .raised⟩,
      ⟨true, true, true, true, .data [9], .data [3], .sent 3, .blocking, .raised⟩,
      ⟨false, true, false, true, .blocking, .blocking, .sent 1000, .sent 1000, .raised⟩]
    let s := (run (initTunnel 3) ticks).1
    s.sentC = ack.take 6 ∧ s.client.buffer = [ack.drop 6, [1, 2], [3]] ∧ s.sentU = [9] ∧
      s.recvU = [1, 2, 3] ∧ s.recvC = [9] := by
  decide +kernel

/-- **C01, tunnel established with early payload**: the CONNECT request shares its segment with tunnel
bytes `early` (any bytes).  Both directions hold from that state on; what the upstream gets is `early`
followed by everything read from the client afterwards. -/
theorem C01_tunnel_early (m : Nat) (early : Bytes) (ticks : List Tick) :
    (run (initTunnelEarly m early) ticks).1.sentC ++ (run (initTunnelEarly m early) ticks).1.client.buffer.flatten
      = ack ++ (run (initTunnelEarly m early) ticks).1.recvU ∧
    (run (initTunnelEarly m early) ticks).1.sentU ++ (run (initTunnelEarly m early) ticks).1.upstream.buffer.flatten
      = (run (initTunnelEarly m early) ticks).1.recvC ∧
    (∃ later, (run (initTunnelEarly m early) ticks).1.recvC = early ++ later) ∧
    (run (initTunnelEarly m early) ticks).2 ≠ .raised := by
  obtain ⟨⟨later, u1, u2⟩, u3⟩ := run_up ticks (initTunnelEarly m early) rfl rfl
  have hU0 : U (initTunnelEarly m early) = early := by
    unfold U initTunnelEarly st0
    cases early <;> simp
  refine ⟨(run_inv (step_down_inv ack) ticks _ (initTunnelEarly_down m early)).2, ?_, ⟨later, u1⟩, u3⟩
  exact u2.trans (by rw [u1, hU0]; rfl)

example : (initTunnelEarly 0 [13, 10, 22, 3]).upstream.buffer = [[13, 10, 22, 3]] ∧
    (initTunnelEarly 0 []) = initTunnel 0 := by decide +kernel

/-- **C01 with the idle reaper in the schedule**: `Threadless._cleanup_inactive` looks at the connection
at arbitrary moments, with arbitrary clock readings and timeouts.  It never takes a connection with
bytes pending for the client, the invariant holds in every state such a run reaches, and a run the
reaper ends has delivered everything it received. -/
theorem C01_not_reaped_while_pending (m : Nat) (early req : Bytes) (evs : List Ev) :
    (∀ (s : St) (elapsed timeout : Int), s.client.hasBuffer = true → isInactive s elapsed timeout = false) ∧
    ((runEv (initTunnelEarly m early) evs).1.sentC ++ (runEv (initTunnelEarly m early) evs).1.client.buffer.flatten
        = ack ++ (runEv (initTunnelEarly m early) evs).1.recvU) ∧
    ((runEv (initHttp m req) evs).1.sentC ++ (runEv (initHttp m req) evs).1.client.buffer.flatten
        = (runEv (initHttp m req) evs).1.recvU) ∧
    ((runEv (initTunnelEarly m early) evs).2 = .reaped →
        (runEv (initTunnelEarly m early) evs).1.sentC = ack ++ (runEv (initTunnelEarly m early) evs).1.recvU) ∧
    ((runEv (initHttp m req) evs).2 = .reaped →
        (runEv (initHttp m req) evs).1.sentC = (runEv (initHttp m req) evs).1.recvU) := by
  have ht := (runEv_inv (step_down_inv ack) evs _ (initTunnelEarly_down m early)).2
  have hh := (runEv_inv (step_down_inv []) evs _ (initHttp_down m req)).2
  -- the reaper takes only a connection with nothing pending: then delivered = delivered ++ pending
  have reaped (s : St) (hr : (runEv s evs).2 = .reaped) : (runEv s evs).1.sentC = D (runEv s evs).1 := by
    rw [D, (hasBuffer_false_iff _).mp ((runEv_last evs s).2 hr), List.flatten_nil, List.append_nil]
  exact ⟨fun s e t hb => by simp [isInactive, hb], ht, hh, fun hr => (reaped _ hr).trans ht,
    fun hr => (reaped _ hr).trans hh⟩

/-- the reaper passes over a relay with output pending and closes a drained idle one -/
example :
    let up : Tick := ⟨false, false, true, false, .blocking, .data [7, 8], .blocking, .blocking, .raised⟩
    let eof : Tick := ⟨false, false, true, false, .blocking, .eof, .blocking, .blocking, .raised⟩
    let wr : Tick := ⟨false, true, false, false, .blocking, .blocking, .sent 1000, .blocking, .raised⟩
    (runEv (initHttp 0 [71]) [.tick up, .tick eof, .reap 1000000 10, .reap 5 (-3)]).2 = .open_ ∧
    (runEv (initHttp 0 [71]) [.tick up, .reap 99 10, .tick wr, .reap 11 10]).2 = .reaped := by decide +kernel

end Px.Relay

import PxModel.Connect
import PxProofs.UrlParseLemmas
/-!
# `stripBrackets` and the host `Url._parse` returns; what `Target.wf` says about the bytes of userinfo, host and
port; `Url._parse` on a well-formed authority
-/
namespace Px.Connect
open Px Px.Url Px.UrlL

theorem stripBrackets_infix (h : Bytes) : stripBrackets h <:+: h := by
  unfold stripBrackets
  split
  · exact (List.dropLast_prefix _).isInfix.trans (List.drop_suffix 1 h).isInfix
  · exact List.infix_refl h

theorem stripBrackets_of_not_mem {h : Bytes} (hn : LBR ∉ h) : stripBrackets h = h := by
  cases h with
  | nil => rfl
  | cons c cs =>
    have : c ≠ LBR := fun e => hn (by simp [e])
    simp [stripBrackets, this]

theorem stripBrackets_wrap (h : Bytes) : stripBrackets ([LBR] ++ h ++ [RBR]) = h := by
  unfold stripBrackets
  have h1 : ([LBR] ++ h ++ [RBR]).head? = some LBR := by simp
  have h2 : ([LBR] ++ h ++ [RBR]).getLast? = some RBR := by
    rw [List.getLast?_append]; simp
  rw [h1, h2]
  simp

theorem stripBrackets_wrapV6_infix (h : Bytes) : stripBrackets (wrapV6 h) <:+: h := by
  unfold wrapV6
  split
  · rw [stripBrackets_wrap]; exact List.infix_refl h
  · exact stripBrackets_infix h

theorem hostPort_substring (raw hp : Bytes) (u p : Option Bytes)
    {u' p' : Option Bytes} {h : Bytes} {port : Option Int}
    (e : hostPort raw u p hp = .ok (u', p', h, port)) :
    stripBrackets h <:+: hp ∧
    (∀ v, port = some v → ∃ pre s, hp = pre ++ COLON :: s ∧ COLON ∉ s ∧ pyInt 10 s = some v) := by
  unfold hostPort at e
  split at e
  · rename_i h0 hs
    simp at e; obtain ⟨_, _, rfl, rfl⟩ := e
    obtain ⟨rfl, _⟩ := splitN1_succ_eq_singleton hs
    exact ⟨stripBrackets_infix _, by simp⟩
  · rename_i h0 p0 hs
    obtain ⟨hx, hh, hp0⟩ := splitN1_two_eq_pair hs
    split at e
    · rename_i v hv
      simp at e; obtain ⟨_, _, rfl, rfl⟩ := e
      refine ⟨(stripBrackets_infix _).trans ⟨[], COLON :: p0, by rw [hx]; simp⟩, ?_⟩
      intro v' hv'; simp at hv'; subst hv'
      exact ⟨h0, p0, hx, hp0, hv⟩
    · simp at e
  · rename_i a c last hs
    split at e
    · simp at e; obtain ⟨_, _, rfl, rfl⟩ := e
      obtain ⟨hpre, hport⟩ := v6Split_spec hs
      exact ⟨(stripBrackets_wrapV6_infix _).trans hpre.isInfix, hport⟩
    · simp at e
  · simp at e

theorem not_mem_of_all {p : UInt8 → Bool} {x : Bytes} (h : x.all p = true) {d : UInt8} (hd : p d = false) :
    d ∉ x := fun hm => by rw [List.all_eq_true.1 h d hm] at hd; cases hd

theorem noneOf_not_mem {bad : List UInt8} {x : Bytes} (h : noneOf bad x = true) {c : UInt8} (hc : c ∈ bad) :
    c ∉ x := not_mem_of_all h (by simp [hc])

theorem isHexDig_lt {c : UInt8} (h : isHexDig c = true) : c.toNat < 128 := by
  simp only [isHexDig, isDig, Bool.or_eq_true, Bool.and_eq_true, decide_eq_true_eq, UInt8.le_iff_toNat_le] at h
  simp at h
  omega

theorem digits_not_mem {ds : Bytes} (h : ∀ c ∈ ds, isDig c = true) (d : UInt8) (hd : d.toNat < 48 ∨ 57 < d.toNat) :
    d ∉ ds := fun hm => by have := isDig_toNat (h d hm); omega

/-- in particular no `@` and no `/` -/
theorem renderPort_not_mem (port : Option Nat) {c : UInt8} (hc : c.toNat < 48 ∨ 58 < c.toNat) :
    c ∉ renderPort port := by
  cases port with
  | none => exact List.not_mem_nil
  | some n =>
    simp only [renderPort, List.mem_cons, not_or]
    exact ⟨fun e => by subst e; revert hc; decide, digits_not_mem (decRender_spec n).2.1 c (by omega)⟩

/-- a port in TCP's range has at most 5 digits, far below CPython's limit of 4300 -/
theorem pyInt_decRender_port {n : Nat} (h : portWf (some n) = true) :
    COLON ∉ decRender n ∧ pyInt 10 (decRender n) = some (Int.ofNat n) := by
  have hn : n < 10 ^ intMaxStrDigits := by
    simp only [portWf, decide_eq_true_eq] at h
    calc n < 10 ^ 5 := by omega
      _ ≤ 10 ^ intMaxStrDigits := Nat.pow_le_pow_right (by decide) (by decide)
  exact ⟨digits_not_mem (decRender_spec n).2.1 COLON (by decide), pyInt_decRender n hn⟩

theorem Host.wf_ipv6 {t : Bytes} (h : (Host.ipv6 t).wf = true) :
    t.all (fun c => isHexDig c || c == COLON || c == 46) = true ∧ 2 ≤ t.count COLON := by
  simp only [Host.wf, Bool.and_eq_true, decide_eq_true_eq] at h
  exact h

theorem Host.wf_v6Text {t : Bytes} (h : (Host.ipv6 t).wf = true) : V6Text t := by
  obtain ⟨hall, h2⟩ := Host.wf_ipv6 h
  refine ⟨fun c hc => ?_, h2⟩
  have := List.all_eq_true.1 hall c hc
  simp only [Bool.or_eq_true, beq_iff_eq] at this
  rcases this with (h | rfl) | rfl
  · exact isHexDig_lt h
  · decide
  · decide

/-- what the parsing lemmas use of a well-formed host -/
structure Host.Facts (h : Host) : Prop where
  noAt : AT ∉ h.text
  noSlash : SLASH ∉ h.text
  ne_nil : h.text ≠ []
  utf8 : utf8Valid h.text = true
  bare : stripBrackets h.text = h.bare
  noColon : h.isV6 = false → COLON ∉ h.text

theorem Host.wf_facts (h : Host) (hw : h.wf = true) : h.Facts := by
  cases h with
  | regName n =>
    simp only [Host.wf, Bool.and_eq_true, Bool.not_eq_true', List.isEmpty_eq_false_iff] at hw
    obtain ⟨⟨hne, hno⟩, hu⟩ := hw
    exact {
      noAt := noneOf_not_mem hno (by simp)
      noSlash := noneOf_not_mem hno (by simp)
      ne_nil := hne
      utf8 := hu
      bare := stripBrackets_of_not_mem (noneOf_not_mem hno (by simp))
      noColon := fun _ => noneOf_not_mem hno (by simp) }
  | ipv4 t =>
    simp only [Host.wf, Bool.and_eq_true, Bool.not_eq_true', List.isEmpty_eq_false_iff] at hw
    obtain ⟨hne, hcl⟩ := hw
    refine {
      noAt := not_mem_of_all hcl (by decide)
      noSlash := not_mem_of_all hcl (by decide)
      ne_nil := hne
      utf8 := utf8Valid_ascii _ fun c hc => ?_
      bare := stripBrackets_of_not_mem (not_mem_of_all hcl (by decide))
      noColon := fun _ => not_mem_of_all hcl (by decide) }
    have := List.all_eq_true.1 hcl c hc
    simp only [Bool.or_eq_true, beq_iff_eq] at this
    rcases this with h | rfl
    · exact Nat.lt_of_le_of_lt (isDig_toNat h).2 (by decide)
    · decide
  | ipv6 t =>
    obtain ⟨hall, _⟩ := Host.wf_ipv6 hw
    have hnot : ∀ d : UInt8, (isHexDig d || d == COLON || d == 46) = false → d ≠ LBR → d ≠ RBR →
        d ∉ [LBR] ++ t ++ [RBR] := by
      intro d hd h1 h2 hm
      simp only [List.append_assoc, List.mem_append, List.mem_cons, List.not_mem_nil, or_false] at hm
      rcases hm with e | hm | e
      · exact h1 e
      · exact not_mem_of_all hall hd hm
      · exact h2 e
    exact {
      noAt := hnot AT (by decide) (by decide) (by decide)
      noSlash := hnot SLASH (by decide) (by decide) (by decide)
      ne_nil := by simp [Host.text]
      utf8 := utf8Valid_ascii _ (Host.wf_v6Text hw).ascii
      bare := stripBrackets_wrap t
      noColon := fun h => by simp [Host.isV6] at h }

theorem userinfoWf_not_mem {u p : Bytes} (h : userinfoWf (some (u, p)) = true) {c : UInt8}
    (hc : c ∈ [COLON, AT, SLASH]) : c ∉ u ∧ c ∉ p := by
  simp only [userinfoWf, Bool.and_eq_true] at h
  exact ⟨noneOf_not_mem h.1 hc, noneOf_not_mem h.2 hc⟩

theorem hostPort_wf (raw : Bytes) (u p : Option Bytes) (h : Host) (port : Option Nat)
    (hw : h.wf = true) (hp : portWf port = true) :
    hostPort raw u p (h.text ++ renderPort port) = .ok (u, p, h.text, port.map Int.ofNat) := by
  have hcol := (Host.wf_facts h hw).noColon
  cases hv : h.isV6 with
  | false =>
    cases port with
    | none => simp only [renderPort, List.append_nil, Option.map_none]; exact hostPort_plain raw u p _ (hcol hv)
    | some n =>
      obtain ⟨hc, hi⟩ := pyInt_decRender_port hp
      exact hostPort_plain_port raw u p _ _ _ (hcol hv) hc hi
  | true =>
    cases h with
    | regName n => simp [Host.isV6] at hv
    | ipv4 t => simp [Host.isV6] at hv
    | ipv6 t =>
      have hc := Host.wf_v6Text hw
      cases port with
      | none =>
        simp only [renderPort, List.append_nil, Option.map_none, Host.text]
        exact hostPort_v6_noport raw u p t hc
      | some n =>
        obtain ⟨hcn, hi⟩ := pyInt_decRender_port hp
        exact hostPort_v6_port raw u p t _ _ hc hcn hi

theorem parseAuthority_wf (ui : Option (Bytes × Bytes)) (h : Host) (port : Option Nat)
    (hu : userinfoWf ui = true) (hw : h.wf = true) (hp : portWf port = true) :
    parseAuthority (renderUserinfo ui ++ h.text ++ renderPort port) =
      .ok (ui.map (·.1), ui.map (·.2), h.text, port.map Int.ofNat) := by
  have hat := (Host.wf_facts h hw).noAt
  have hpat := renderPort_not_mem port (c := AT) (by decide)
  cases ui with
  | none =>
    simp only [renderUserinfo, List.nil_append, Option.map_none]
    rw [parseAuthority_no_userinfo _ (by simp [hat, hpat])]
    exact hostPort_wf _ none none h port hw hp
  | some up =>
    obtain ⟨u, p⟩ := up
    obtain ⟨h1, h2⟩ := userinfoWf_not_mem hu (c := COLON) (by simp)
    obtain ⟨h3, h4⟩ := userinfoWf_not_mem hu (c := AT) (by simp)
    have e : renderUserinfo (some (u, p)) ++ h.text ++ renderPort port =
        u ++ COLON :: p ++ AT :: (h.text ++ renderPort port) := by simp [renderUserinfo]
    rw [e, parseAuthority_userinfo u p _ h1 h2 h3 h4]
    simp only [Option.map_some]
    exact hostPort_wf _ _ _ h port hw hp

end Px.Connect

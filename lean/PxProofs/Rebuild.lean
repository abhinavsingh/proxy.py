import PxProofs.BuildGuards
import PxProofs.HeaderKeysInv
import PxProofs.ChunkCodec
import PxProofs.UrlParseLemmas
/-!
# Re-serialising a parsed message (`HttpParser.build` / `build_response`) and reading it back (C15)

On a parsed header map in the decidable guard `hdrInvB` (keys are the lower-cased names and are unique — which the
parser guarantees, `parseAll_keysInv` — names / values in the header grammar) the dict comprehension of `build()`
gives the list of `(name, value)` pairs in order, and reading that list back gives the same map: a dict filled with
keys it does not have yet only grows (`foldl_append_of_fresh`).  `originPath` says when the parser reads the request
target `build()` writes (`pathOf`) back as a path.
-/
namespace Px.Codec

open Px.Parser Px.Build
open Px.Url (Url)

def namesOf (h : Headers) : HDict := h.map (·.2)

def hdrInvB (h : Headers) : Bool :=
  decide ((h.map (fun e => lower e.2.1)).Nodup) &&
    h.all (fun e => e.1 == lower e.2.1 && wfName e.2.1 && wfValue e.2.2)

theorem hdrInvB_iff {h : Headers} : hdrInvB h = true ↔
    KeysInv h ∧ ∀ e ∈ h, wfName e.2.1 = true ∧ wfValue e.2.2 = true := by
  simp only [hdrInvB, KeysInv, Bool.and_eq_true, decide_eq_true_eq, List.all_eq_true, bytes_beq, and_assoc]
  constructor
  · rintro ⟨hnd, hall⟩
    rw [← List.map_congr_left (fun e he => (hall e he).1)] at hnd
    exact ⟨hnd, fun e he => (hall e he).1, fun e he => (hall e he).2⟩
  · rintro ⟨hnd, hk, hwf⟩
    rw [List.map_congr_left hk] at hnd
    exact ⟨hnd, fun e he => ⟨hk e he, hwf e he⟩⟩

theorem wfHeaders_namesOf {h : Headers} (hi : hdrInvB h = true) : wfHeaders (namesOf h) = true := by
  simp only [wfHeaders, namesOf, List.all_eq_true, List.mem_map, Bool.and_eq_true]
  rintro e ⟨a, ha, rfl⟩
  exact (hdrInvB_iff.1 hi).2 a ha

theorem hdrInvB_hdrDel {h : Headers} (hi : hdrInvB h = true) (k : Bytes) : hdrInvB (hdrDel h k) = true := by
  obtain ⟨⟨hnd, hk⟩, hwf⟩ := hdrInvB_iff.1 hi
  exact hdrInvB_iff.2 ⟨⟨hnd.sublist (List.filter_sublist.map _), fun e he => hk e (List.mem_filter.1 he).1⟩,
    fun e he => hwf e (List.mem_filter.1 he).1⟩

/-- `add_header(name, value)` stores under `name.lower()` -/
theorem hdrInvB_hdrSet {h : Headers} (hi : hdrInvB h = true) {name value : Bytes}
    (hn : wfName name = true) (hv : wfValue value = true) :
    hdrInvB (hdrSet h (lower name) (name, value)) = true := by
  obtain ⟨hk, hwf⟩ := hdrInvB_iff.1 hi
  refine hdrInvB_iff.2 ⟨keysInv_hdrSet hk name value, fun e he => ?_⟩
  rcases mem_hdrSet.1 he with rfl | ⟨he, -⟩
  · exact ⟨hn, hv⟩
  · exact hwf e he

/-- `HttpParser.build`'s header dict (default `disable_headers`, no Host override): names are distinct because
    their lower-cased forms, the keys, are -/
theorem rebuildHeaders_eq (h : Headers) (hi : hdrInvB h = true) : rebuildHeaders h [] none = namesOf h := by
  obtain ⟨⟨hnd, hk⟩, -⟩ := hdrInvB_iff.1 hi
  exact (rebuildHeaders_none h [] (nodup_names_of_keys hnd hk)).trans
    (congrArg _ (List.filter_eq_self.2 fun _ _ => rfl))

theorem hdrFold_namesOf (h : Headers) (hi : hdrInvB h = true) : hdrFold [] (namesOf h) = h := by
  obtain ⟨⟨hnd, hk⟩, -⟩ := hdrInvB_iff.1 hi
  refine (foldl_append_of_fresh _ (fun e => (lower e.1, e)) Prod.fst
    (fun acc e hf => hdrSet_of_no_key acc _ _ hf) (namesOf h) [] ?_ (fun _ _ _ ha => nomatch ha)).trans ?_
  · rw [List.map_congr_left hk] at hnd
    rw [namesOf, List.map_map]
    exact hnd
  · rw [List.nil_append, namesOf, List.map_map]
    exact (List.map_congr_left (fun e he => by rw [Function.comp, ← hk e he])).trans (List.map_id' h)

theorem hdrsOf_namesOf (h : Headers) (hi : hdrInvB h = true) (hne : h ≠ []) : hdrsOf (namesOf h) = some h := by
  rw [hdrsOf, if_neg (fun e : namesOf h = [] => hne (List.map_eq_nil_iff.1 e)), hdrFold_namesOf h hi]

/-- origin-form target that the own parser reads back as a path: starts with `/`, not with `//`
    (a leading `//` is read as a network-path reference: finding D24) -/
def originPath (x : Bytes) : Bool :=
  match x with
  | c0 :: tl => c0 == SLASH && (match tl with | c1 :: _ => c1 != SLASH | [] => true)
  | [] => false

theorem fromBytes_origin (allowed : List Bytes) (x : Bytes) (h : originPath x = true) :
    Px.Url.fromBytes allowed x = .ok { remainder := some x } := by
  cases x with
  | nil => cases h
  | cons c0 tl =>
    obtain ⟨h1, h2⟩ := Bool.and_eq_true_iff.1 h
    rw [byte_beq.1 h1]
    refine Px.UrlL.fromBytes_origin allowed tl ?_
    cases tl with
    | nil => nofun
    | cons c1 _ => exact fun e => byte_bne.1 h2 (Option.some.inj e)

end Px.Codec

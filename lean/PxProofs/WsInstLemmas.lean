import PxModel.Ws
import PxProofs.WsLemmas
/-! The reused instance (`Inst`, `parseSt`, `buildSt`) and the loop over one segment (`webLoop`):
what is parsed from a frame's bytes, and that the input length is fuel enough. -/
namespace Px.Ws

/-- what the route plugin is handed for frame `f` sent with key source `rnd` -/
def deliv (rnd : Bytes) (f : Frame) : Inst :=
  { fin := f.fin, rsv1 := f.rsv1, rsv2 := f.rsv2, rsv3 := f.rsv3, opcode := f.opcode,
    masked := f.masked, plen := some f.data.length,
    mask := if f.masked then some (f.mask.getD rnd) else none, data := some f.data }

/-- the bytes of several frames back to back, as they share one TCP segment -/
def wire : List (Bytes × Frame) → Bytes
  | [] => []
  | (rnd, f) :: fs => rfcEncode f (f.mask.getD rnd) ++ wire fs

theorem buildWith_len (rnd : Bytes) (f : Frame) : buildWith rnd f f.data.length = build rnd f := rfl

theorem rfcEncode_isEmpty (f : Frame) (k x : Bytes) : (rfcEncode f k ++ x).isEmpty = false := rfl

theorem rfcEncode_unmasked (f : Frame) (k k' : Bytes) (h : f.masked = false) :
    rfcEncode f k = rfcEncode f k' := by
  simp [rfcEncode, h]

/-- `build` reads `mask` only as the key of a masked frame, so any `m` that agrees there will do. -/
theorem build_remask (rnd rnd' : Bytes) (f : Frame) (m : Option Bytes) (h : f.WF rnd)
    (hm : f.masked = true → m = some (f.mask.getD rnd)) :
    build rnd' { f with mask := m } = .ok (rfcEncode f (f.mask.getD rnd)) := by
  rw [build_eq_rfcEncode rnd' { f with mask := m } ⟨h.1, h.2.1, fun hk => by rw [hm hk]; exact h.2.2 hk⟩]
  obtain hk | hk := Bool.eq_false_or_eq_true f.masked
  · rw [hm hk]; rfl
  · exact congrArg _ (rfcEncode_unmasked f _ _ hk)

theorem parseSt_rfcEncode (s : Inst) (rnd : Bytes) (f : Frame) (tail : Bytes) (h : f.WF rnd) :
    parseSt s (rfcEncode f (f.mask.getD rnd) ++ tail) =
      .ok ({ deliv rnd f with mask := if f.masked then some (f.mask.getD rnd) else s.mask }, tail) := by
  obtain ⟨raw, hb, hp, hd⟩ := build_parse rnd f tail h
  rw [build_eq_rfcEncode rnd f h] at hb
  cases hb
  rw [parseSt, hp, hd]
  cases hm : f.masked <;> simp [Frame.norm, deliv, hm]

theorem parseSt_fresh_rfcEncode (rnd : Bytes) (f : Frame) (tail : Bytes) (h : f.WF rnd) :
    parseSt Inst.fresh (rfcEncode f (f.mask.getD rnd) ++ tail) = .ok (deliv rnd f, tail) :=
  parseSt_rfcEncode Inst.fresh rnd f tail h

theorem lenRest_length (l7 len : Nat) (rest rest' : Bytes) (h : lenRest l7 rest = .ok (len, rest')) :
    rest'.length ≤ rest.length := by
  -- every branch is an error or returns `rest` or a `drop` of it
  unfold lenRest at h
  repeat' split at h
  all_goals cases h
  all_goals simp

theorem finish_length (b0 len : Nat) (masked : Bool) (rest tail : Bytes) (f : Frame)
    (h : finish b0 masked len rest = .ok (f, tail)) : tail.length ≤ rest.length := by
  unfold finish at h
  cases masked
  all_goals simp only [Bool.false_eq_true, if_false, if_true] at h
  · cases h; simp
  · split at h
    · cases h
    · cases h; simp

theorem parse_tail_lt (raw tail : Bytes) (f : Frame) (h : parse raw = .ok (f, tail)) :
    tail.length + 2 ≤ raw.length := by
  unfold parse at h
  split at h
  · cases h
  · cases h
  · simp only at h
    split at h
    · cases h
    · next hl =>
      have := lenRest_length _ _ _ _ hl
      have := finish_length _ _ _ _ _ _ h
      simp only [List.length_cons]
      omega

theorem parseSt_tail_lt (s i : Inst) (raw tail : Bytes) (h : parseSt s raw = .ok (i, tail)) :
    tail.length + 2 ≤ raw.length := by
  unfold parseSt at h
  split at h
  · cases h
  · rename_i hp; cases h; exact parse_tail_lt raw _ _ hp

theorem webLoop_nil (m : Nat) (s : Inst) : webLoop m s [] = ([], .drained) := by
  cases m <;> simp [webLoop]

/-- Every round consumes at least two bytes. -/
theorem webLoop_fuel (n k : Nat) (s : Inst) (raw : Bytes) (hn : raw.length ≤ n) :
    webLoop (n + k) s raw = webLoop n s raw ∧ (webLoop n s raw).2 ≠ .fuel := by
  induction n generalizing s raw with
  | zero =>
    obtain rfl := List.eq_nil_of_length_eq_zero (Nat.le_zero.1 hn)
    rw [webLoop_nil, webLoop_nil]; simp
  | succ n ih =>
    rw [Nat.add_right_comm, webLoop, webLoop]
    split
    · simp
    · split
      · simp
      · next i rest hp =>
        have := parseSt_tail_lt s i raw rest hp
        obtain ⟨e, hf⟩ := ih i.reset rest (by omega)
        split
        · simp
        · exact ⟨by rw [e], hf⟩

theorem webLoop_wire (fs : List (Bytes × Frame)) (t : Bytes) (m : Nat)
    (hwf : ∀ p ∈ fs, p.2.WF p.1 ∧ p.2.opcode ≠ Px.Gen.wsOpClose) :
    webLoop (fs.length + m) Inst.fresh (wire fs ++ t) =
      ((fs.map fun p => deliv p.1 p.2) ++ (webLoop m Inst.fresh t).1, (webLoop m Inst.fresh t).2) := by
  induction fs with
  | nil => simp [wire]
  | cons p fs ih =>
    obtain ⟨rnd, f⟩ := p
    have hp := hwf (rnd, f) (List.mem_cons_self)
    have ih := ih (fun q hq => hwf q (List.mem_cons_of_mem _ hq))
    have e : (fs.length + 1 + m) = (fs.length + m) + 1 := by omega
    simp only [List.length_cons, e, wire, List.append_assoc]
    conv => lhs; unfold webLoop
    rw [rfcEncode_isEmpty, parseSt_fresh_rfcEncode rnd f _ hp.1]
    have ho : ((deliv rnd f).opcode == Px.Gen.wsOpClose) = false := by
      simp only [deliv]; exact beq_false_of_ne hp.2
    simp only [Bool.false_eq_true, if_false, ho, Inst.reset, ih, List.map_cons, List.cons_append]

theorem webLoopTop_close (rnd : Bytes) (c : Frame) (rest : Bytes)
    (hc : c.WF rnd) (h8 : c.opcode = Px.Gen.wsOpClose) :
    webLoopTop (rfcEncode c (c.mask.getD rnd) ++ rest) = ([], .closed) := by
  -- the fuel is not 0: `rfcEncode` starts with a header byte
  rw [webLoopTop, show (rfcEncode c (c.mask.getD rnd) ++ rest).length = _ + 1 from rfl, webLoop,
    rfcEncode_isEmpty, parseSt_fresh_rfcEncode rnd c rest hc]
  simp [deliv, h8]

theorem webLoopTop_wire (fs : List (Bytes × Frame)) (t : Bytes)
    (hwf : ∀ p ∈ fs, p.2.WF p.1 ∧ p.2.opcode ≠ Px.Gen.wsOpClose) :
    webLoopTop (wire fs ++ t) = ((fs.map fun p => deliv p.1 p.2) ++ (webLoopTop t).1, (webLoopTop t).2) := by
  rw [webLoopTop, ← (webLoop_fuel _ fs.length _ _ (Nat.le_refl _)).1, Nat.add_comm, webLoop_wire fs t _ hwf,
    List.length_append, Nat.add_comm, (webLoop_fuel _ _ _ t (Nat.le_refl _)).1, webLoopTop]

end Px.Ws

import PxModel.Ws
import PxModel.Sha1
import PxProofs.WsLemmas
import PxProofs.WsInstLemmas
import PxProofs.Lit
import PxProofs.Sha1Lemmas
/-!
# C16 — WebSocket frames round-trip for every size and flag combination

The model (`PxModel/Ws.lean`, `PxModel/Sha1.lean`) is tied to
`proxy/http/websocket/frame.py` by the correspondence check `harness/c16.py`.
-/
namespace Px.Ws

/-- **C16 round trip.**  `f.WF rnd` is what `build()` accepts: any flags, a
4-bit opcode, a payload shorter than 2⁶⁴ bytes, unmasked or masked with a 4-byte
key, given or drawn by `secrets.token_bytes` (`rnd`).  Parsing consumes exactly
the one frame and returns `tail` untouched. -/
theorem C16_roundtrip (rnd : Bytes) (f : Frame) (tail : Bytes) (h : f.WF rnd) :
    ∃ raw, build rnd f = .ok raw ∧ parse (raw ++ tail) = .ok (f.norm rnd, tail) :=
  (build_parse rnd f tail h).imp fun _ hr => ⟨hr.1, hr.2.1⟩

theorem C16_mask_involutive (key data : Bytes) (i : Nat) :
    maskAux key i (maskAux key i data) = data := maskAux_inv key i data

/-- **C16 RFC 6455 agreement.**  `build` produces, byte for byte, the encoding
written independently from the RFC's frame diagram (`rfcEncode`). -/
theorem C16_rfc (rnd : Bytes) (f : Frame) (h : f.WF rnd) :
    build rnd f = .ok (rfcEncode f (f.mask.getD rnd)) :=
  build_eq_rfcEncode rnd f h

theorem C16_reject_wide_opcode (rnd : Bytes) (f : Frame) (h : byte0 f > 255) :
    build rnd f = .error .structError := by
  unfold build; rw [if_pos h]

example : (⟨true, false, true, false, 9, true, some [1, 2, 3, 4], [104, 105]⟩ : Frame).WF [] := by
  simp [Frame.WF]
example : (⟨false, true, false, true, 15, true, none, []⟩ : Frame).WF [9, 9, 9, 9] := by
  simp [Frame.WF]

theorem C16_reset_forgets (s : Inst) (raw : Bytes) :
    parseSt s.reset raw = parseSt Inst.fresh raw := rfl

/-- **C16 frames sharing a segment.**  Frames sent back to back in ONE segment
are handed to the route plugin one by one, in order, each with its own flags,
key, declared length and payload (`deliv`), and nothing is left over. -/
theorem C16_loop (fs : List (Bytes × Frame)) (hwf : ∀ p ∈ fs, p.2.WF p.1 ∧ p.2.opcode ≠ Px.Gen.wsOpClose) :
    webLoopTop (wire fs) = (fs.map fun p => deliv p.1 p.2, .drained) := by
  simpa [webLoopTop, webLoop] using webLoopTop_wire fs [] hwf

theorem C16_loop_close (fs : List (Bytes × Frame)) (rnd : Bytes) (c : Frame) (rest : Bytes)
    (hwf : ∀ p ∈ fs, p.2.WF p.1 ∧ p.2.opcode ≠ Px.Gen.wsOpClose) (hc : c.WF rnd) (h8 : c.opcode = Px.Gen.wsOpClose) :
    webLoopTop (wire fs ++ (rfcEncode c (c.mask.getD rnd) ++ rest)) =
      (fs.map fun p => deliv p.1 p.2, .closed) := by
  rw [webLoopTop_wire fs _ hwf, webLoopTop_close rnd c rest hc h8, List.append_nil]

theorem C16_loop_total (raw : Bytes) : (webLoopTop raw).2 ≠ .fuel :=
  (webLoop_fuel raw.length 0 Inst.fresh raw (Nat.le_refl _)).2

/-- **C16 echo.**  `parse` followed by `build` on the same object (what an
echoing route plugin does with the instance it is handed) reproduces the
frame's bytes, whatever the earlier history `s` of the instance and whatever
`secrets.token_bytes` would return (`rnd'`). -/
theorem C16_echo (s : Inst) (rnd rnd' : Bytes) (f : Frame) (tail : Bytes) (h : f.WF rnd) :
    ∃ i, parseSt s (rfcEncode f (f.mask.getD rnd) ++ tail) = .ok (i, tail) ∧
      buildSt rnd' i = .ok (i, rfcEncode f (f.mask.getD rnd)) := by
  refine ⟨_, parseSt_rfcEncode s rnd f tail h, ?_⟩
  simp only [buildSt, deliv, Option.getD_some, Inst.toFrame]
  -- `buildWith` is called with `f`'s fields, another `mask`, and the payload's own length
  have hb := build_remask rnd rnd' f (if f.masked then some (f.mask.getD rnd) else s.mask) h
    (fun hm => by rw [if_pos hm])
  rw [← buildWith_len] at hb
  simp only [hb]

/-- **C16 `text()`.**  What the server sends with `WebsocketFrame.text(data)`
is a single final unmasked TEXT frame that parses back to exactly `data`. -/
theorem C16_text (data tail : Bytes) (h : data.length < 2 ^ 64) :
    ∃ raw, text data = .ok raw ∧ parse (raw ++ tail) = .ok (textFrame data, tail) :=
  -- `text` is `build` on `textFrame data`, which is unmasked and hence its own `norm`
  C16_roundtrip [] (textFrame data) tail ⟨(by decide : Px.Gen.wsOpText < 16), h, fun hm => by cases hm⟩

/-- **C16 build is repeatable** (nothing assigned in between, same
`secrets.token_bytes` outcome): `build` stores nothing but the length it used. -/
theorem C16_build_idempotent (rnd : Bytes) (s s' : Inst) (raw : Bytes)
    (h : buildSt rnd s = .ok (s', raw)) : buildSt rnd s' = .ok (s', raw) := by
  simp only [buildSt] at h
  split at h
  · cases h
  · next hb =>
    cases h
    simp only [buildSt, Option.getD_some, Inst.toFrame] at hb ⊢
    rw [hb]

/-- An API trap outside the property (no code in the repository does this; the
web loop `reset()`s, `text()` and the clients build new objects): assigning new
`data` to an object that was built or parsed before WITHOUT `reset()` keeps the
old `payload_length`, and the bytes built then do not parse back to the data. -/
theorem C16_stale_length_witness :
    ∃ i t j raw, parseSt Inst.fresh [0x81, 0x01, 0x61] = .ok (i, t) ∧
      buildSt [] { i with data := some [0x62, 0x63] } = .ok (j, raw) ∧
      raw = [0x81, 0x01, 0x62, 0x63] ∧
      (parse raw).toOption.map (·.1.data) = some [0x62] := by
  refine ⟨_, _, _, _, rfl, rfl, rfl, rfl⟩

/-- why `reset()` matters (witness): WITHOUT it the key of an earlier masked
frame stays visible on a later unmasked one. -/
theorem C16_no_reset_stale_mask_witness :
    ∃ i j t, parseSt Inst.fresh [0x81, 0x81, 1, 2, 3, 4, 0x60] = .ok (i, t) ∧
      parseSt i [0x81, 0x01, 0x61] = .ok (j, []) ∧ j.masked = false ∧ j.mask = some [1, 2, 3, 4] := by
  refine ⟨_, _, _, rfl, rfl, rfl, rfl⟩

example : webLoopTop (wire [([], ⟨true, false, false, false, 1, true, some [1, 2, 3, 4], [0x61]⟩),
                           ([], ⟨true, false, false, false, 2, false, none, [0x62, 0x63]⟩)]) =
    ([⟨true, false, false, false, 1, true, some 1, some [1, 2, 3, 4], some [0x61]⟩,
      ⟨true, false, false, false, 2, false, some 2, none, some [0x62, 0x63]⟩], .drained) := by
  decide +kernel

end Px.Ws

namespace Px.Sha1

/-- **C16 accept token.**  The handshake accept token is the RFC formula
`base64(SHA-1(key ++ GUID))`.  `sha1` / `b64encode` are the FIPS 180-4 /
RFC 4648 algorithms (the RFC 6455 §1.3 example below is reproduced by kernel
evaluation); `hashlib` / `base64` are tied to them by the correspondence check. -/
theorem C16_accept (guid key : Bytes) : keyToAccept guid key = b64encode (sha1 (key ++ guid)) := rfl

theorem C16_accept_rfc_example :
    keyToAccept GUID (b "dGhlIHNhbXBsZSBub25jZQ==") = b "s3pPLMBiTxaQ9kYGzzhZRbK+xOo=" := by
  rw [b_ofList, b_ofList]
  delta keyToAccept sha1 compress
  rw [schedule_eq_scheduleL]
  decide +kernel

end Px.Sha1

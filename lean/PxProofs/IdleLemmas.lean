import PxModel.Idle
/-! C20.  The hypotheses on traces (`Mono`, `Quiet`, `Paced`) and the ghost list `ioTimes` of
    client-side I/O times, which `last_activity` dominates.  An idle connection is reaped within a
    budget of loop iterations (`reap_within`); queued pieces, empty ones included, drain by `weight`. -/
namespace Px.Idle

/-- the event times do not decrease, and start at `lo` or later -/
def Mono : Int → List Ev → Prop
  | _, [] => True
  | lo, e :: r => lo ≤ e.time ∧ Mono e.time r

/-- is `e`, handled in state `s`, a genuine client-side read or write?
    (a writable report with nothing queued does no I/O; a readable report after reading ended is not read) -/
def clientIO (s : St) : Ev → Bool
  | .clientRead _ _ => !s.readsTorn
  | .clientReadEnd _ => !s.readsTorn
  | .clientWrite _ _ => s.numBuffer != 0
  | _ => false

/-- ghost: the times of the client-side reads / writes handled while the connection is open -/
def ioTimes (cfg : Cfg) : St → List Ev → List Int
  | _, [] => []
  | s, e :: r =>
    (if s.status = .open ∧ clientIO s e = true then [e.time] else []) ++ ioTimes cfg (step cfg s e) r

/-- events that leave an idle connection idle: no client read, nothing queued
    (a writable report with an empty buffer does nothing) -/
def Quiet : Ev → Prop
  | .clientRead _ _ => False
  | .clientReadEnd _ => False
  | .clientWrite _ _ => True
  | .upstream _ k => k = 0
  | .loopIter _ => True

instance : DecidablePred Quiet := fun e => by
  cases e <;> simp only [Quiet] <;> infer_instance

/-- every loop iteration is no earlier than the previous one (`last`) and at most `D` later -/
def Paced (D : Int) : Int → List Ev → Prop
  | _, [] => True
  | last, e :: r =>
    match e with
    | .loopIter t => last ≤ t ∧ t ≤ last + D ∧ Paced D t r
    | _ => Paced D last r

def decMono : (lo : Int) → (tr : List Ev) → Decidable (Mono lo tr)
  | _, [] => isTrue trivial
  | lo, e :: r =>
    have := decMono e.time r
    (inferInstance : Decidable (lo ≤ e.time ∧ Mono e.time r))

instance (lo : Int) (tr : List Ev) : Decidable (Mono lo tr) := decMono lo tr

def decPaced (D : Int) : (last : Int) → (tr : List Ev) → Decidable (Paced D last tr)
  | _, [] => isTrue trivial
  | last, .loopIter t :: r =>
    have := decPaced D t r
    (inferInstance : Decidable (last ≤ t ∧ t ≤ last + D ∧ Paced D t r))
  | last, .clientRead _ _ :: r => decPaced D last r
  | last, .clientReadEnd _ :: r => decPaced D last r
  | last, .clientWrite _ _ :: r => decPaced D last r
  | last, .upstream _ _ :: r => decPaced D last r

instance (D last : Int) (tr : List Ev) : Decidable (Paced D last tr) := decPaced D last tr

theorem run_nil (cfg : Cfg) (s : St) : run cfg s [] = s := rfl

theorem run_cons (cfg : Cfg) (s : St) (e : Ev) (r : List Ev) :
    run cfg s (e :: r) = run cfg (step cfg s e) r := rfl

theorem run_append (cfg : Cfg) (s : St) (a b : List Ev) :
    run cfg s (a ++ b) = run cfg (run cfg s a) b := by
  simp [run, List.foldl_append]

/-- the case split of every proof about `step` -/
theorem loopIter_or (e : Ev) : (∃ t, e = .loopIter t) ∨ ∀ t, e ≠ .loopIter t := by
  cases e with
  | loopIter t => exact .inl ⟨t, rfl⟩
  | _ => exact .inr nofun

theorem step_nonloop (cfg : Cfg) (s : St) {e : Ev} (h : ∀ t, e ≠ .loopIter t) :
    step cfg s e = if s.status = .open then connStep s e else s := by
  cases e with
  | loopIter t => exact absurd rfl (h t)
  | _ => unfold step; cases s.status <;> rfl

theorem step_conn (cfg : Cfg) (s : St) (e : Ev) :
    (step cfg s e).lastActivity = (if s.status = .open then connStep s e else s).lastActivity ∧
    (step cfg s e).numBuffer = (if s.status = .open then connStep s e else s).numBuffer := by
  rcases loopIter_or e with ⟨t, rfl⟩ | h
  · rw [show connStep s (.loopIter t) = s from rfl, ite_self, step]
    by_cases hd : due cfg s.tick = true
    · rw [if_pos hd]; exact ⟨rfl, rfl⟩
    · rw [if_neg hd]; exact ⟨rfl, rfl⟩
  · rw [step_nonloop cfg s h]; exact ⟨rfl, rfl⟩

theorem step_closed (cfg : Cfg) (s : St) (e : Ev) (h : s.status ≠ .open) :
    (step cfg s e).status = s.status := by
  rcases loopIter_or e with ⟨t, rfl⟩ | hl
  · simp only [step]; split
    · cases hs : s.status <;> first | rfl | exact absurd hs h
    · rfl
  · rw [step_nonloop cfg s hl, if_neg h]

theorem run_closed (cfg : Cfg) (tr : List Ev) : ∀ (s : St), s.status ≠ .open →
    (run cfg s tr).status = s.status := by
  induction tr with
  | nil => intro s _; rfl
  | cons e r ih =>
    intro s h
    have h1 := step_closed cfg s e h
    rw [run_cons, ih _ (by rw [h1]; exact h), h1]

theorem run_reaped (cfg : Cfg) (tr : List Ev) (s : St) (t : Int) (h : s.status = .reaped t) :
    (run cfg s tr).status = .reaped t := by
  rw [run_closed cfg tr s (by rw [h]; intro h'; cases h'), h]

theorem ite_torn (c : Prop) [Decidable c] (t : Int) (st : Status) :
    (if c then .torn t else st) = st ∨ ∃ t', (if c then .torn t else st) = .torn t' := by
  split
  · exact .inr ⟨t, rfl⟩
  · exact .inl rfl

theorem connStep_status (s : St) (e : Ev) :
    (connStep s e).status = s.status ∨ ∃ t, (connStep s e).status = .torn t := by
  cases e with
  | clientRead t k =>
    rw [connStep]
    by_cases h : s.readsTorn = true
    · rw [if_pos h]; exact .inl rfl
    · rw [if_neg h]; exact .inl rfl
  | clientReadEnd t =>
    rw [connStep]
    by_cases h : s.readsTorn = true
    · rw [if_pos h]; exact .inl rfl
    · rw [if_neg h]; exact ite_torn _ t _
  | clientWrite t f =>
    rw [connStep]
    by_cases h : s.numBuffer = 0
    · rw [if_pos h]; exact .inl rfl
    · rw [if_neg h]; exact ite_torn _ t _
  | upstream t k => exact .inl rfl
  | loopIter t => exact .inl rfl

theorem step_status_nonloop (cfg : Cfg) (s : St) (e : Ev) (h : ∀ t, e ≠ .loopIter t) (ho : s.status = .open) :
    (step cfg s e).status = .open ∨ ∃ t, (step cfg s e).status = .torn t := by
  rw [step_nonloop cfg s h, if_pos ho, ← ho]
  exact connStep_status s e

theorem step_loop_open (cfg : Cfg) (s : St) (t : Int) (h : s.status = .open) :
    (step cfg s (.loopIter t)).status =
      if due cfg s.tick = true ∧ isInactive cfg s t = true then .reaped t else .open := by
  simp only [step, h]
  by_cases hd : due cfg s.tick = true <;> by_cases hi : isInactive cfg s t = true <;> simp [hd, hi]

theorem isInactive_iff (cfg : Cfg) (s : St) (now : Int) :
    isInactive cfg s now = true ↔ s.numBuffer = 0 ∧ now - s.lastActivity > cfg.timeout := by
  simp [isInactive, St.hasBuffer]

theorem connStep_la (s : St) (e : Ev) :
    (connStep s e).lastActivity = if clientIO s e = true then e.time else s.lastActivity := by
  cases e with
  | clientRead t k =>
    rw [connStep, clientIO]
    cases s.readsTorn <;> rfl
  | clientReadEnd t =>
    rw [connStep, clientIO]
    cases s.readsTorn <;> rfl
  | clientWrite t f =>
    rw [connStep, clientIO]
    by_cases h : s.numBuffer = 0
    · rw [if_pos h, h]; rfl
    · have : (s.numBuffer != 0) = true := by simpa using h
      rw [if_neg h, if_pos this]; rfl
  | upstream t k => rfl
  | loopIter t => rfl

theorem step_la (cfg : Cfg) (s : St) (e : Ev) :
    (step cfg s e).lastActivity =
      if s.status = .open ∧ clientIO s e = true then e.time else s.lastActivity := by
  rw [(step_conn cfg s e).1]
  by_cases ho : s.status = .open
  · simp only [ho, if_true, true_and, connStep_la]
  · simp only [ho, if_false, false_and]

theorem Mono_append_left : ∀ (a b : List Ev) (lo : Int), Mono lo (a ++ b) → Mono lo a := by
  intro a; induction a with
  | nil => intro b lo _; trivial
  | cons e r ih => intro b lo h; exact ⟨h.1, ih b _ h.2⟩

theorem la_dominates (cfg : Cfg) (tr : List Ev) : ∀ (s : St) (lo : Int), Mono lo tr → s.lastActivity ≤ lo →
    s.lastActivity ≤ (run cfg s tr).lastActivity ∧ ∀ u ∈ ioTimes cfg s tr, u ≤ (run cfg s tr).lastActivity := by
  induction tr with
  | nil => intro s lo _ _; exact ⟨Int.le_refl _, by simp [ioTimes]⟩
  | cons e r ih =>
    intro s lo hm hs
    have hle : s.lastActivity ≤ e.time := Int.le_trans hs hm.1
    have hla := step_la cfg s e
    rw [run_cons, ioTimes]
    by_cases hc : s.status = .open ∧ clientIO s e = true
    · rw [if_pos hc] at hla ⊢
      have ⟨h1, h2⟩ := ih (step cfg s e) e.time hm.2 (Int.le_of_eq hla)
      rw [hla] at h1
      exact ⟨Int.le_trans hle h1, fun u hu => (List.mem_cons.1 hu).elim (fun hu => hu ▸ h1) (h2 u)⟩
    · rw [if_neg hc] at hla ⊢
      have ⟨h1, h2⟩ := ih (step cfg s e) e.time hm.2 (hla ▸ hle)
      rw [hla] at h1
      exact ⟨h1, h2⟩

theorem reaped_split (cfg : Cfg) (tr : List Ev) : ∀ (s : St) (t : Int), s.status = .open →
    (run cfg s tr).status = .reaped t →
    ∃ pre rest, tr = pre ++ .loopIter t :: rest ∧ (run cfg s pre).status = .open ∧
      due cfg (run cfg s pre).tick = true ∧ isInactive cfg (run cfg s pre) t = true := by
  induction tr with
  | nil => intro s t ho h; rw [run_nil, ho] at h; cases h
  | cons e r ih =>
    intro s t ho h
    rw [run_cons] at h
    by_cases hs : (step cfg s e).status = .open
    · obtain ⟨pre, rest, h1, h2, h3, h4⟩ := ih _ t hs h
      exact ⟨e :: pre, rest, by rw [h1]; rfl, h2, h3, h4⟩
    · rw [run_closed cfg r _ hs] at h
      rcases loopIter_or e with ⟨t', rfl⟩ | hl
      · rw [step_loop_open cfg s t' ho] at h
        by_cases hc : due cfg s.tick = true ∧ isInactive cfg s t' = true
        · rw [if_pos hc] at h
          cases h
          exact ⟨[], r, rfl, ho, hc.1, hc.2⟩
        · rw [if_neg hc] at h; cases h
      · rcases step_status_nonloop cfg s e hl ho with h' | ⟨t', h'⟩
        · exact absurd h' hs
        · rw [h'] at h; cases h

theorem reaperIters_due (cfg : Cfg) (n k i : Nat) (h : due cfg k = true) :
    reaperIters cfg (n + 1) k i = (i + 1) :: reaperIters cfg n 1 (i + 1) := by
  rw [reaperIters, if_pos h]

theorem reaperIters_not_due (cfg : Cfg) (n k i : Nat) (h : due cfg k = false) :
    reaperIters cfg (n + 1) k i = reaperIters cfg n (k + 1) (i + 1) := by
  rw [reaperIters, if_neg (by rw [h]; nofun)]

theorem reaperIters_skip (cfg : Cfg) (N : Nat) (hdue : ∀ k, due cfg k = true ↔ N ≤ k) :
    ∀ (j n k i : Nat), k + j = N → reaperIters cfg (j + 1 + n) k i = (i + j + 1) :: reaperIters cfg n 1 (i + j + 1) := by
  intro j
  induction j with
  | zero =>
    intro n k i hk
    rw [Nat.zero_add, Nat.add_comm 1 n, reaperIters_due cfg n k i ((hdue k).2 (Nat.le_of_eq hk.symm))]
  | succ j ih =>
    intro n k i hk
    have hd : due cfg k = false := by
      cases h : due cfg k with
      | false => rfl
      | true => exact absurd ((hdue k).1 h) (hk ▸ Nat.not_le.2 (Nat.lt_add_of_pos_right (Nat.succ_pos j)))
    rw [Nat.add_right_comm (j + 1) 1 n, reaperIters_not_due cfg _ k i hd,
      ih n (k + 1) (i + 1) ((Nat.add_right_comm k 1 j).trans hk),
      Nat.add_right_comm i 1 j]
    rfl

/-- open, nothing queued, last active at `t0` -/
structure IdleAt (s : St) (t0 : Int) : Prop where
  op : s.status = .open
  nb : s.numBuffer = 0
  la : s.lastActivity = t0

theorem quiet_step (cfg : Cfg) (s : St) (e : Ev) (t0 : Int) (hi : IdleAt s t0) (hq : Quiet e)
    (hn : ∀ t, e ≠ .loopIter t) : step cfg s e = s := by
  rw [step_nonloop cfg s hn, if_pos hi.op]
  cases e with
  | loopIter t => exact absurd rfl (hn t)
  | clientRead t k => exact hq.elim
  | clientReadEnd t => exact hq.elim
  | clientWrite t f => exact if_pos hi.nb
  | upstream t k => cases (hq : k = 0); rfl

theorem loop_step_reap (cfg : Cfg) (s : St) (t t0 : Int) (hi : IdleAt s t0)
    (hd : due cfg s.tick = true) (ht : t0 + cfg.timeout < t) :
    (step cfg s (.loopIter t)).status = .reaped t := by
  rw [step_loop_open cfg s t hi.op, if_pos]
  refine ⟨hd, (isInactive_iff cfg s t).2 ⟨hi.nb, ?_⟩⟩
  rw [hi.la]; omega

theorem loop_step_idle (cfg : Cfg) (s : St) (t t0 : Int) (hi : IdleAt s t0)
    (h : due cfg s.tick = false ∨ t ≤ t0 + cfg.timeout) : IdleAt (step cfg s (.loopIter t)) t0 := by
  have ⟨hla, hnb⟩ := step_conn cfg s (.loopIter t)
  refine ⟨?_, hnb.trans (by rw [if_pos hi.op]; exact hi.nb), hla.trans (by rw [if_pos hi.op]; exact hi.la)⟩
  rw [step_loop_open cfg s t hi.op, if_neg]
  intro ⟨hd, hin⟩
  have := ((isInactive_iff cfg s t).1 hin).2
  rw [hi.la] at this
  rcases h with h | h
  · rw [hd] at h; cases h
  · omega

theorem loop_step_tick (cfg : Cfg) (s : St) (t : Int) (hd : due cfg s.tick = false) :
    (step cfg s (.loopIter t)).tick = s.tick + 1 := by
  simp [step, hd]

theorem succ_mul_cast (n : Nat) (D : Int) : ((n + 1 : Nat) : Int) * D = D + (n : Int) * D := by
  rw [Int.natCast_succ, Int.add_mul, Int.one_mul, Int.add_comm]

/-- a budget that suffices from a later time suffices from an earlier one -/
theorem budget_mono {a b D W Bd : Int} (h : a ≤ b) (hB : b + D + W ≤ Bd) : a + D + W ≤ Bd :=
  Int.le_trans (Int.add_le_add_right (Int.add_le_add_right h D) W) hB

theorem natmul_nonneg (n : Nat) (D : Int) (hD : 0 ≤ D) : 0 ≤ (n : Int) * D :=
  Int.mul_nonneg (Int.natCast_nonneg n) hD

theorem Paced_nonloop (D last : Int) {e : Ev} (r : List Ev) (h : ∀ t, e ≠ .loopIter t) :
    Paced D last (e :: r) ↔ Paced D last r := by
  cases e with
  | loopIter t => exact absurd rfl (h t)
  | _ => exact Iff.rfl

/-- `m` is a budget of iterations within which the reaper is due (`N ≤ tick + m`); while the idle
    threshold `t0 + timeout` has not passed the reaper may run and reset the counter, so there the
    budget is a whole period (`N ≤ m`).  `Bd` leaves room for `m + 1` iterations after both the
    previous iteration and the threshold. -/
theorem reap_within (cfg : Cfg) (N : Nat) (D t0 Bd : Int) (hdue : ∀ k, due cfg k = true ↔ N ≤ k) (hD : 0 ≤ D)
    (tr : List Ev) : ∀ (s : St) (last : Int) (m : Nat), IdleAt s t0 →
    N ≤ s.tick + m → (last ≤ t0 + cfg.timeout → N ≤ m) →
    last + D + (m : Int) * D ≤ Bd → t0 + cfg.timeout + D + (m : Int) * D ≤ Bd →
    (∀ e ∈ tr, Quiet e) → Paced D last tr →
    (∃ t, (run cfg s tr).status = .reaped t ∧ t ≤ Bd) ∨
      ((run cfg s tr).status = .open ∧ last + D ≤ Bd ∧ ∀ t, Ev.loopIter t ∈ tr → t + D ≤ Bd) := by
  induction tr with
  | nil =>
    intro s last m hi _ _ hB _ _ _
    exact .inr ⟨hi.op, Int.le_trans (Int.le_add_of_nonneg_right (natmul_nonneg m D hD)) hB, fun _ h => nomatch h⟩
  | cons e r ih =>
    intro s last m hi hm hN hB hB' hq hp
    have hqr : ∀ e ∈ r, Quiet e := fun x hx => hq x (List.mem_cons_of_mem _ hx)
    have hmD := natmul_nonneg m D hD
    rw [run_cons]
    rcases loopIter_or e with ⟨t, rfl⟩ | hn
    · obtain ⟨hp1, hp2, hp3⟩ := hp
      suffices h : (∃ t', (run cfg (step cfg s (.loopIter t)) r).status = .reaped t' ∧ t' ≤ Bd) ∨
          ((run cfg (step cfg s (.loopIter t)) r).status = .open ∧ t + D ≤ Bd ∧
            ∀ t', Ev.loopIter t' ∈ r → t' + D ≤ Bd) from
        h.imp id fun ⟨ho, hl, hall⟩ => ⟨ho, Int.le_trans (Int.add_le_add_right hp1 D) hl,
          fun t' ht' => (List.mem_cons.1 ht').elim (fun h => by cases h; exact hl) (hall t')⟩
      by_cases hth : t ≤ t0 + cfg.timeout
      · -- below the threshold the connection is kept whatever the reaper does; the budget stays whole
        have := hN (Int.le_trans hp1 hth)
        exact ih _ t m (loop_step_idle cfg s t t0 hi (.inr hth)) (Nat.le_trans this (Nat.le_add_left _ _))
          (fun _ => this) (budget_mono hth hB') hB' hqr hp3
      · cases hd : due cfg s.tick with
        | true =>
          exact .inl ⟨t, run_reaped cfg r _ t (loop_step_reap cfg s t t0 hi hd (Int.not_le.1 hth)),
            Int.le_trans hp2 (Int.le_trans (Int.le_add_of_nonneg_right hmD) hB)⟩
        | false =>
          have hlt : ¬ N ≤ s.tick := fun h => by rw [(hdue _).2 h] at hd; cases hd
          cases m with
          | zero => exact absurd hm hlt
          | succ m' =>
            rw [succ_mul_cast m' D, ← Int.add_assoc] at hB hB'
            exact ih _ t m' (loop_step_idle cfg s t t0 hi (.inl hd))
              (by rw [loop_step_tick cfg s t hd, Nat.add_right_comm]; exact hm)
              (fun h => absurd h hth) (budget_mono hp2 hB) (budget_mono (Int.le_add_of_nonneg_right hD) hB')
              hqr hp3
    · rw [quiet_step cfg s e t0 hi (hq e List.mem_cons_self) hn]
      exact (ih s last m hi hm hN hB hB' hqr ((Paced_nonloop D last r hn).1 hp)).imp id fun ⟨ho, hl', hall⟩ =>
        ⟨ho, hl', fun t ht => (List.mem_cons.1 ht).elim (fun h => absurd h.symm (hn t)) (hall t)⟩

theorem effMax_pos (m : Nat) : 0 < effMax m := by
  unfold effMax
  by_cases h : m = 0
  · rw [if_pos h]; decide
  · rw [if_neg h]; exact Nat.pos_of_ne_zero h

theorem flushPieces_length (m : Nat) (acc : Option Nat) (ps : List Nat) :
    (flushPieces m acc ps).length = ps.length ∨ (flushPieces m acc ps).length + 1 = ps.length := by
  cases ps with
  | nil => exact .inl rfl
  | cons p r =>
    cases acc with
    | none => exact .inl rfl
    | some a =>
      rw [flushPieces]
      by_cases h : min a (min p (effMax m)) = p
      · rw [if_pos h]; exact .inr rfl
      · rw [if_neg h]; exact .inl rfl

/-- bytes still to go plus one per piece: what every successful flush decreases -/
def weight : List Nat → Nat
  | [] => 0
  | p :: r => p + 1 + weight r

theorem flushPieces_weight (m a : Nat) (ha : 1 ≤ a) (p : Nat) (r : List Nat) :
    weight (flushPieces m (some a) (p :: r)) + 1 ≤ weight (p :: r) := by
  show weight (if min a (min p (effMax m)) = p then r else (p - min a (min p (effMax m))) :: r) + 1 ≤
    p + 1 + weight r
  -- all that matters of what was sent: at most the piece, and something if there is something
  have hle : min a (min p (effMax m)) ≤ p := Nat.le_trans (Nat.min_le_right _ _) (Nat.min_le_left _ _)
  have hpos : 1 ≤ p → 1 ≤ min a (min p (effMax m)) := fun hp =>
    Nat.le_min.2 ⟨ha, Nat.le_min.2 ⟨hp, effMax_pos m⟩⟩
  generalize min a (min p (effMax m)) = sent at hle hpos
  by_cases hs : sent = p
  · rw [if_pos hs]; omega
  · rw [if_neg hs]
    show p - sent + 1 + weight r + 1 ≤ p + 1 + weight r
    omega

theorem flushPieces_drains (m : Nat) (accs : List Nat) : ∀ (ps : List Nat), (∀ a ∈ accs, 1 ≤ a) →
    weight ps ≤ accs.length → accs.foldl (fun ps a => flushPieces m (some a) ps) ps = [] := by
  induction accs with
  | nil =>
    intro ps _ h
    cases ps with
    | nil => rfl
    | cons p r => simp [weight] at h
  | cons a as ih =>
    intro ps ha h
    simp only [List.foldl_cons]
    apply ih _ (fun x hx => ha x (List.mem_cons_of_mem _ hx))
    cases ps with
    | nil => simp [flushPieces, weight]
    | cons p r =>
      have := flushPieces_weight m a (ha a List.mem_cons_self) p r
      simp only [List.length_cons] at h
      omega

/-- `_num_buffer` counts the queued pieces -/
def PInv (ps : PSt) : Prop := ps.st.numBuffer = ps.pieces.length

theorem pinv_init (t0 : Int) : PInv (pinit t0) := rfl

theorem pinv_step (cfg : Cfg) (m : Nat) (ps : PSt) (e : PEv) (h : PInv ps) : PInv (pstep cfg m ps e) := by
  unfold PInv at h ⊢
  have hnb := (step_conn cfg ps.st (e.toEv m ps)).2
  cases hs : ps.st.status with
  | «open» =>
    rw [if_pos hs] at hnb
    simp only [pstep, hs]
    rw [hnb]
    cases e with
    | loopIter t => exact h
    | clientReadEnd t =>
      dsimp only [PEv.toEv, connStep]
      cases ps.st.readsTorn <;> exact h
    | clientRead t lens =>
      dsimp only [PEv.toEv, connStep]
      cases ps.st.readsTorn
      · exact (congrArg (· + _) h).trans List.length_append.symm
      · exact h
    | upstream t lens => dsimp only [PEv.toEv, connStep]; rw [List.length_append, ← h]
    | clientWrite t acc =>
      dsimp only [PEv.toEv, connStep]
      by_cases h0 : ps.st.numBuffer = 0
      · have hp : ps.pieces = [] := List.eq_nil_of_length_eq_zero (by rw [← h]; exact h0)
        rw [if_pos h0, hp]
        cases acc <;> exact h0
      · rw [if_neg h0]
        show (if decide ((flushPieces m acc ps.pieces).length < ps.pieces.length) = true
          then ps.st.numBuffer - 1 else ps.st.numBuffer) = _
        rcases flushPieces_length m acc ps.pieces with hl | hl
        · rw [hl, if_neg (by simp)]; exact h
        · rw [if_pos (decide_eq_true (by rw [← hl]; exact Nat.lt_succ_self _)), h, ← hl]; rfl
  | _ =>
    rw [if_neg (by rw [hs]; nofun)] at hnb
    simp only [pstep, hs]
    rw [hnb]; exact h

theorem pinv_run (cfg : Cfg) (m : Nat) (tr : List PEv) : ∀ (ps : PSt), PInv ps → PInv (prun cfg m ps tr) := by
  induction tr with
  | nil => intro ps h; exact h
  | cons e r ih => intro ps h; exact ih _ (pinv_step cfg m ps e h)

theorem pstep_write (cfg : Cfg) (m : Nat) (ps : PSt) (t : Int) (acc : Option Nat)
    (ho : ps.st.status = .open) (hr : ps.st.readsTorn = false) :
    (pstep cfg m ps (.clientWrite t acc)).st.status = .open ∧
    (pstep cfg m ps (.clientWrite t acc)).st.readsTorn = false ∧
    (pstep cfg m ps (.clientWrite t acc)).pieces = flushPieces m acc ps.pieces := by
  simp only [pstep, PEv.toEv, step, ho, connStep]
  by_cases h0 : ps.st.numBuffer = 0 <;> simp [h0, ho, hr]

end Px.Idle

import PxModel.ReqSpec
import PxProofs.BytesLemmas
import PxProofs.HexLemmas
import PxProofs.HeaderKeysInv
import PxProofs.BuildRoundTrip
/-!
# C02: the header treatment and the builder, on any parser state

The header map of a parser (Python dict lower-key ↦ (name, value)) has distinct keys, each the
lower-cased name (`HdrInv`; `HttpParser.parse` keeps it on every input, `PxProofs/HeaderKeysInv`).  Under
that invariant the dict comprehension of `HttpParser.build` is a filter (`rebuildHeaders_eq`), so what
`buildFor` writes after the header treatment of `HttpProxyPlugin` (`treatedMap`) is
`request-line CRLF (name ": " value CRLF)* CRLF payload` with the header lines
`finalDict (headerDict …)`, none of them proxy-only (`finalDict_no_credentials`).
-/
namespace Px.Forward

open Px.Parser Px.Build
open Px.Codec (pathOf hdrGet_of_mem mem_hdrSet hdrSet_of_no_key)

theorem lower_viaName : lower viaName = viaLower := by decide
theorem lower_viaLower : lower viaLower = viaLower := by decide
def nCL : Bytes := [67, 111, 110, 116, 101, 110, 116, 45, 76, 101, 110, 103, 116, 104]

theorem b_content_length' : b "content-length" = clName := by rw [b_ofList]; rfl
theorem b_chunked' : b "chunked" = chunkedTok := by rw [b_ofList]; rfl
theorem lower_nCL : lower nCL = clName := by decide
theorem lower_clName : lower clName = clName := by decide
theorem lower_teName : lower teName = teName := by decide
theorem viaLower_ne_cl : viaLower ≠ clName := by decide
theorem viaLower_ne_te : viaLower ≠ teName := by decide
theorem cl_ne_te : clName ≠ teName := by decide

/-- what `add_header` maintains -/
def KeyInv (h : Headers) : Prop := ∀ e ∈ h, e.1 = lower e.2.1

def HdrInv (h : Headers) : Prop := (h.map (·.1)).Nodup ∧ KeyInv h

theorem hdrSet_of_mem (h : Headers) (k : Bytes) (v : Bytes × Bytes) (hk : ∃ e ∈ h, e.1 = k) :
    hdrSet h k v = h.map (fun e => if e.1 == k then (k, v) else e) := by
  unfold hdrSet
  have : h.any (·.1 == k) = true := by
    obtain ⟨e, he, hek⟩ := hk
    exact List.any_eq_true.2 ⟨e, he, by simp [hek]⟩
  simp [this]

theorem hdrInv_hdrDel {h : Headers} (hi : HdrInv h) (k : Bytes) : HdrInv (hdrDel h k) := by
  unfold hdrDel
  exact ⟨(List.filter_sublist.map _).nodup hi.1, fun e he => hi.2 e (List.mem_filter.1 he).1⟩

theorem hdrInv_nil : HdrInv [] := ⟨by simp, fun _ h => by simp at h⟩

theorem rebuildHeaders_eq (h : Headers) (dis : List Bytes) (hi : HdrInv h) :
    rebuildHeaders h dis none = (h.filter (fun e => !dis.contains e.1)).map (·.2) := by
  rw [Px.Codec.rebuildHeaders_none h dis (Px.Codec.nodup_names_of_keys hi.1 hi.2),
    List.filter_congr (q := fun e => !dis.contains e.1) fun e he => by rw [hi.2 e he, lower_idem]]

/-- the header dict `HttpParser.build` hands to `build_http_request` -/
def headerDict (p : Parser) (dis : List Bytes) : HDict :=
  match p.headers with
  | some h => if h.isEmpty then [] else rebuildHeaders h dis none
  | none => []

/-- `del_headers([PROXY_AUTHORIZATION, PROXY_CONNECTION])` on the map -/
def keptEntries (cfg : Cfg) (h : Headers) : Headers :=
  hdrDel (hdrDel h (lower cfg.proxyAuthorization)) (lower cfg.proxyConnection)

/-- the Via treatment of `on_request_complete` on the map -/
def withVia (cfg : Cfg) (k : Headers) : Headers :=
  hdrSet k viaLower (viaName, match hdrGet k viaLower with
    | some v => v.2 ++ commaSp ++ viaValue cfg
    | none => viaValue cfg)

theorem stripProxyHeaders_eq (cfg : Cfg) (p : Parser) :
    stripProxyHeaders cfg p = { p with headers := p.headers.map (keptEntries cfg) } := by
  rw [stripProxyHeaders, Px.Codec.delHeader_eq, Px.Codec.delHeader_eq, lower_idem, lower_idem]
  cases p.headers <;> rfl

theorem hasHeader_eq (p : Parser) (k : Bytes) : hasHeader p k = (p.headers.getD []).any (·.1 == lower k) := by
  unfold hasHeader; cases p.headers <;> rfl

theorem treatFirst_eq (cfg : Cfg) (p : Parser) :
    treatFirst cfg p =
      { p with headers := some (withVia cfg ((p.headers.map (keptEntries cfg)).getD [])) } := by
  unfold treatFirst addHeader viaFor hasHeader header withVia
  rw [stripProxyHeaders_eq]
  simp only [lower_viaName]
  rcases hh : p.headers with _ | h
  · simp [hdrGet]
  · simp only [Option.map_some, Option.getD_some, any_iff_hdrGet]
    cases hg : hdrGet (keptEntries cfg h) viaLower with
    | none => simp
    | some v => simp

theorem treatLater_eq (cfg : Cfg) (p : Parser) :
    treatLater cfg p = { p with headers := p.headers.map (keptEntries cfg) } :=
  stripProxyHeaders_eq cfg p

theorem hdrInv_keptEntries (cfg : Cfg) {h : Headers} (hi : HdrInv h) : HdrInv (keptEntries cfg h) :=
  hdrInv_hdrDel (hdrInv_hdrDel hi _) _

theorem hdrInv_withVia (cfg : Cfg) {k : Headers} (hi : HdrInv k) : HdrInv (withVia cfg k) := by
  unfold withVia
  rw [← lower_viaName]
  exact Px.Codec.keysInv_hdrSet hi _ _

theorem withVia_ne_nil (cfg : Cfg) (k : Headers) : withVia cfg k ≠ [] := by
  unfold withVia hdrSet
  split
  · rename_i ha
    obtain ⟨e, he, _⟩ := List.any_eq_true.1 ha
    intro hn
    have := List.map_eq_nil_iff.1 hn
    rw [this] at he; simp at he
  · simp

theorem withVia_absent (cfg : Cfg) (k : Headers) (hk : ∀ e ∈ k, e.1 ≠ viaLower) :
    withVia cfg k = k ++ [(viaLower, (viaName, viaValue cfg))] := by
  unfold withVia
  have hg : hdrGet k viaLower = none := by
    rw [← Option.not_isSome_iff_eq_none, ← any_iff_hdrGet, List.any_eq_true]
    rintro ⟨e, he, hek⟩
    exact hk e he (by simpa using hek)
  rw [hg, hdrSet_of_no_key k _ _ hk]

theorem withVia_present (cfg : Cfg) (k : Headers) (hn : (k.map (·.1)).Nodup)
    {e : Bytes × (Bytes × Bytes)} (he : e ∈ k) (hv : e.1 = viaLower) :
    withVia cfg k = k.map (fun x => if x.1 == viaLower then
      (viaLower, (viaName, e.2.2 ++ commaSp ++ viaValue cfg)) else x) := by
  unfold withVia
  have hg := hdrGet_of_mem hn he
  rw [hv] at hg
  rw [hg, hdrSet_of_mem k _ _ ⟨e, he, hv⟩]

def PInv (p : Parser) : Prop := HdrInv (p.headers.getD [])

theorem headerDict_of_inv (p : Parser) (dis : List Bytes) (hi : PInv p) :
    headerDict p dis = ((p.headers.getD []).filter (fun e => !dis.contains e.1)).map (·.2) := by
  unfold headerDict PInv at *
  rcases hh : p.headers with _ | h
  · simp
  · rw [hh] at hi
    cases h with
    | nil => simp
    | cons e rest =>
      simp only [List.isEmpty_cons, Bool.false_eq_true, if_false, Option.getD_some]
      exact rebuildHeaders_eq _ dis hi

/-! `HdrInv` is `Px.Codec.KeysInv`, which `HttpParser.parse` preserves on *every* input (the only writer
of the map is `add_header`); so `C02_no_credentials` needs no well-formedness of the client's bytes. -/

theorem pinv_iff (p : Parser) : PInv p ↔ Px.Codec.PInv p := by
  unfold PInv Px.Codec.PInv
  cases p.headers with
  | none => exact ⟨fun _ _ hh => (nomatch hh), fun _ => hdrInv_nil⟩
  | some h => exact ⟨fun hi _ hx => by cases hx; exact hi, fun hi => hi h rfl⟩

theorem pinv_init (ty : PType) : PInv (init ty) := hdrInv_nil

theorem parse_pinv {cfg : Px.Parser.Cfg} {p q : Parser} {x : Bytes}
    (h : parse cfg p x = .ok q) (hi : PInv p) : PInv q :=
  (pinv_iff q).2 (Px.Codec.pinv_parse cfg ((pinv_iff p).1 hi) h)

theorem feedUntilComplete_pinv {cfg : Px.Parser.Cfg} {p q : Parser} {segs rest : List Bytes}
    (h : feedUntilComplete cfg p segs = .ok (q, rest)) (hi : PInv p) : PInv q := by
  induction segs generalizing p with
  | nil => simp only [feedUntilComplete, Except.ok.injEq, Prod.mk.injEq] at h; rw [← h.1]; exact hi
  | cons x xs ih =>
    unfold feedUntilComplete at h
    split at h
    · simp at h
    · rename_i p1 hp
      have hp1 := parse_pinv hp hi
      split at h
      · simp only [Except.ok.injEq, Prod.mk.injEq] at h; rw [← h.1]; exact hp1
      · exact ih h hp1

/-- the header dict after `build_http_request`'s own addition of `Content-Length` -/
def finalDict (hd : HDict) (body : Option Bytes) : HDict :=
  if (match body with | some x => !x.isEmpty | none => false) && !hd.any (fun e => lower e.1 == teName) then
    dSet hd nCL (natToDec (body.getD []).length)
  else hd

/-- header lines as `build_http_pkt` writes them -/
def renderDict (hd : HDict) : Bytes := (hd.map (fun e => buildHeader e.1 e.2 ++ CRLF)).flatten

/-- `build_http_request` as `HttpParser.build` calls it: no content type, no `Connection: close`,
    no User-Agent -/
theorem buildRequest_eq (m path v : Bytes) (hd : HDict) (body : Option Bytes) :
    buildRequest [] m path v none hd body false true =
      m ++ SP :: (path ++ SP :: v) ++ CRLF ++ (renderDict (finalDict hd body) ++ CRLF ++ body.getD []) := by
  have : Px.Codec.reqHeaders [] none hd body false true = finalDict hd body := by
    simp only [Px.Codec.reqHeaders, Px.Codec.pktHeaders, Px.Codec.reqH3, Bool.not_true, Bool.and_false,
      Bool.false_eq_true, if_false]
    rfl
  rw [Px.Codec.buildRequest_eq, this]
  rfl

theorem buildFor_ok {cfg : Cfg} {p : Parser} {out : Bytes} (h : buildFor cfg p = .ok out) :
    ∃ body, bodyOrChunks cfg.bufSize p = .ok body ∧ p.ty = .request ∧
      out = (p.method.getD []) ++ SP :: (pathOf p ++ SP :: (p.version.getD [])) ++ CRLF ++
        (renderDict (finalDict (headerDict p cfg.disable) body) ++ CRLF ++ body.getD []) := by
  unfold buildFor at h
  split at h
  case h_2 => cases h
  rename_i x hb
  cases h
  unfold build at hb
  dsimp only at hb
  generalize hguard : (!(_ && _ && p.ty == PType.request)) = c at hb
  cases c
  case true => cases hb
  rw [if_neg Bool.false_ne_true] at hb
  split at hb
  · cases hb
  rename_i body hbody
  cases hb
  simp only [Bool.not_eq_false', Bool.and_eq_true, beq_iff_eq] at hguard
  exact ⟨body, hbody, hguard.2, by rw [buildRequest_eq]; rfl⟩

theorem buildFor_eq (cfg : Cfg) (p : Parser) {m v : Bytes} (hm : p.method = some m) (hmn : m ≠ [])
    (hv : p.version = some v) (hvn : v ≠ []) (hty : p.ty = .request) :
    buildFor cfg p =
      match bodyOrChunks cfg.bufSize p with
      | .error e => .error (.build e)
      | .ok body => .ok (m ++ SP :: (pathOf p ++ SP :: v) ++ CRLF ++
          (renderDict (finalDict (headerDict p cfg.disable) body) ++ CRLF ++ body.getD [])) := by
  have hm' : m.isEmpty = false := by simpa using hmn
  have hv' : v.isEmpty = false := by simpa using hvn
  unfold buildFor build
  simp only [hm, hv, hty, hm', hv', Bool.not_false, Bool.and_self, beq_self_eq_true, Bool.not_true,
    Bool.false_eq_true, if_false, Option.getD_some]
  cases bodyOrChunks cfg.bufSize p with
  | error e => rfl
  | ok body => simp only [buildRequest_eq]; rfl

theorem mem_keptEntries {cfg : Cfg} {h : Headers} {x : Bytes × (Bytes × Bytes)} (hx : x ∈ keptEntries cfg h) :
    x ∈ h ∧ x.1 ≠ lower cfg.proxyAuthorization ∧ x.1 ≠ lower cfg.proxyConnection := by
  unfold keptEntries hdrDel at hx
  simp only [List.mem_filter, bne_iff_ne, ne_eq] at hx
  exact ⟨hx.1.1, hx.1.2, hx.2⟩

/-- the header maps `on_request_complete` (first) and `on_client_data` (later) leave behind -/
def treatedMap (first : Bool) (cfg : Cfg) (h : Headers) : Headers :=
  if first then withVia cfg (keptEntries cfg h) else keptEntries cfg h

theorem getD_map_keptEntries (cfg : Cfg) (o : Option Headers) :
    (o.map (keptEntries cfg)).getD [] = keptEntries cfg (o.getD []) := by
  cases o <;> rfl

theorem treated_headers (first : Bool) (cfg : Cfg) (p : Parser) :
    ((if first then treatFirst cfg p else treatLater cfg p).headers).getD [] =
      treatedMap first cfg (p.headers.getD []) := by
  cases first
  · rw [if_neg Bool.false_ne_true, treatLater_eq]
    exact getD_map_keptEntries cfg _
  · rw [if_pos rfl, treatFirst_eq, getD_map_keptEntries]
    rfl

theorem hdrInv_treatedMap (first : Bool) (cfg : Cfg) {h : Headers} (hi : HdrInv h) :
    HdrInv (treatedMap first cfg h) := by
  unfold treatedMap
  split
  · exact hdrInv_withVia cfg (hdrInv_keptEntries cfg hi)
  · exact hdrInv_keptEntries cfg hi

theorem mem_treatedMap {first : Bool} {cfg : Cfg} {h : Headers} {x : Bytes × (Bytes × Bytes)}
    (hx : x ∈ treatedMap first cfg h) :
    x.1 = viaLower ∨ (x ∈ h ∧ x.1 ≠ lower cfg.proxyAuthorization ∧ x.1 ≠ lower cfg.proxyConnection) := by
  unfold treatedMap at hx
  split at hx
  · unfold withVia at hx
    rcases mem_hdrSet.1 hx with rfl | ⟨hx, -⟩
    · exact .inl rfl
    · exact .inr (mem_keptEntries hx)
  · exact .inr (mem_keptEntries hx)

theorem mem_treatedMap_of {first : Bool} {cfg : Cfg} {h : Headers} {x : Bytes × (Bytes × Bytes)} (hx : x ∈ h)
    (h1 : x.1 ≠ lower cfg.proxyAuthorization) (h2 : x.1 ≠ lower cfg.proxyConnection) (h3 : x.1 ≠ viaLower) :
    x ∈ treatedMap first cfg h := by
  have hk : x ∈ keptEntries cfg h :=
    List.mem_filter.2 ⟨List.mem_filter.2 ⟨hx, by simpa using h1⟩, by simpa using h2⟩
  unfold treatedMap
  split
  · exact mem_hdrSet.2 (.inr ⟨hk, h3⟩)
  · exact hk

theorem pinv_treated (first : Bool) (cfg : Cfg) {p : Parser} (hi : PInv p) :
    PInv (if first then treatFirst cfg p else treatLater cfg p) := by
  unfold PInv
  rw [treated_headers]
  exact hdrInv_treatedMap first cfg hi

theorem finalDict_no_credentials (first : Bool) (cfg : Cfg) (hc : CfgOk cfg) {p : Parser} (hi : PInv p)
    (body : Option Bytes) :
    ∀ e ∈ finalDict (headerDict (if first then treatFirst cfg p else treatLater cfg p) cfg.disable) body,
      lower e.1 ≠ lower cfg.proxyAuthorization ∧ lower e.1 ≠ lower cfg.proxyConnection := by
  have hvia := hc.2 viaLower (by simp)
  have hcl := hc.2 clName (by simp)
  have hbase : ∀ e ∈ headerDict (if first then treatFirst cfg p else treatLater cfg p) cfg.disable,
      lower e.1 ≠ lower cfg.proxyAuthorization ∧ lower e.1 ≠ lower cfg.proxyConnection := by
    intro e he
    rw [headerDict_of_inv _ _ (pinv_treated first cfg hi), treated_headers] at he
    simp only [List.mem_map, List.mem_filter] at he
    obtain ⟨x, ⟨hx, _⟩, rfl⟩ := he
    have hk := (hdrInv_treatedMap first cfg hi).2 x hx
    rw [← hk]
    rcases mem_treatedMap hx with hv | ⟨_, h1, h2⟩
    · rw [hv]; exact ⟨hvia.2.1, hvia.2.2⟩
    · exact ⟨h1, h2⟩
  intro e he
  unfold finalDict at he
  generalize (_ && !(List.any _ _)) = c at he
  cases c with
  | true =>
    simp only [if_true] at he
    rcases Px.Codec.mem_dSet he with rfl | ⟨he, _⟩
    · simp only [lower_nCL]; exact ⟨hcl.2.1, hcl.2.2⟩
    · exact hbase e he
  | false => exact hbase e (by simpa using he)

end Px.Forward

import PxModel.Modes
import PxProofs.ConnLemmas
import PxProofs.RelayLemmas
/-! C17.  The handler calls of the threaded and of the executor loop both replay as a `Relay.run`.
    The two loops are compared up to `norm` (the fields no code reads), on states that are `Alive`
    (the previous round returned `False`): there a round with nothing ready only normalises.
    `HInv` is the invariant of the locked hand-off. -/
namespace Px.Modes
open Px Px.Relay Px.Conn

@[simp] theorem threaded_beq : (Mode.threaded == Mode.threaded) = true := by decide
@[simp] theorem local_beq : (Mode.local == Mode.threaded) = false := by decide
@[simp] theorem remote_beq : (Mode.remote == Mode.threaded) = false := by decide

theorem norm_idem (s : St) : norm (norm s) = norm s := rfl

theorem events_norm (s : St) : events (norm s) = events s := rfl

theorem isInactive_norm (s : St) (e : Bool) : isInactive (norm s) e = isInactive s e := rfl

theorem norm_client (s : St) : (norm s).client = s.client := rfl

theorem phaseCW_writesTeared (s : St) (t : Tick) (b : Bool) :
    phaseCW { s with writesTeared := b } t =
      ({ (phaseCW s t).1 with writesTeared := b }, (phaseCW s t).2) := by
  unfold phaseCW
  by_cases hc : (t.cW && s.client.hasBuffer) = true
  · rw [if_pos hc, if_pos hc]
    unfold afterCW
    cases (s.client.flush s.maxSend t.cSend).exc with
    | some e => rfl
    | none =>
      dsimp only
      by_cases hm : (s.mustFlush && !(s.client.flush s.maxSend t.cSend).conn.hasBuffer) = true
      · rw [if_pos hm, if_pos hm]
      · rw [if_neg hm, if_neg hm]
  · rw [if_neg hc, if_neg hc]

/-- `handle_events` starts by overwriting the trace fields, and `writes_teared` right after
    the client flush -/
theorem tick_norm (s : St) (t : Tick) : tick (norm s) t = tick s t := by
  unfold tick
  dsimp only [norm]
  rw [phaseCW_writesTeared { s with trC := none, trU := none } t false]
  rcases phaseCW { s with trC := none, trU := none } t with ⟨s1, w⟩
  cases w <;> rfl

theorem tick_of_norm_eq {s s' : St} (h : norm s = norm s') (t : Tick) : tick s t = tick s' t := by
  rw [← tick_norm s, ← tick_norm s', h]

theorem events_of_norm_eq {s s' : St} (h : norm s = norm s') : events s = events s' := by
  rw [← events_norm s, ← events_norm s', h]

theorem step_of_norm_eq {s s' : St} (h : norm s = norm s') (t : Tick) : step s t = step s' t := by
  unfold step
  rw [events_of_norm_eq h, tick_of_norm_eq h]

theorem reaped_of_norm_eq {s s' : St} (h : norm s = norm s') (o : Option Bool) :
    reaped s o = reaped s' o := by
  cases o with
  | none => rfl
  | some e => show isInactive s e = isInactive s' e; rw [← isInactive_norm s, ← isInactive_norm s', h]

/-- a state in which the previous `handle_events` (if any) returned `False` -/
def Alive (s : St) : Prop := s.readsTeared = true → s.client.hasBuffer = true

instance (s : St) : Decidable (Alive s) := by unfold Alive; infer_instance

theorem alive_of_norm_eq {s s' : St} (h : norm s = norm s') (ha : Alive s) : Alive s' := by
  have h1 : (norm s).readsTeared = (norm s').readsTeared := congrArg St.readsTeared h
  have h2 : (norm s).client = (norm s').client := congrArg St.client h
  simp only [norm] at h1 h2
  unfold Alive at ha ⊢
  rw [← h1, ← h2]; exact ha

/-- `handle_events` returns `False` only through its last line, which is the negation of `Alive` -/
theorem finish_cont_alive (s : St) (h : (finish s).2 = .cont) : Alive (finish s).1 := by
  intro h1
  cases hb : s.client.hasBuffer with
  | true => exact hb
  | false => exact absurd ⟨h1, hb⟩ (finish_cont s h)

theorem readHalf_cont_alive (s : St) (t : Tick) (h : (readHalf s t).2 = .cont) :
    Alive (readHalf s t).1 := by
  rcases readHalf_ret s t with ⟨_, e⟩ | ⟨s', e⟩
  · rw [e] at h; exact nomatch h
  · rw [e] at h ⊢; exact finish_cont_alive _ h

theorem tick_cont_alive (s : St) (t : Tick) (h : (tick s t).2 = .cont) : Alive (tick s t).1 := by
  rcases tick_cases s t with ⟨s1, _, _, _, e⟩ | ⟨s1, s2, _, e⟩ <;> rw [e] at h ⊢
  · exact nomatch h
  · exact readHalf_cont_alive _ _ h

theorem step_cont_alive {s s1 : St} {t : Tick} (h : step s t = (s1, .cont)) : Alive s1 := by
  have := tick_cont_alive s (mask (events s) t) (congrArg Prod.snd h)
  rwa [show tick s (mask (events s) t) = (s1, .cont) from h] at this

/-- `anyReady t = false`: a `handle_events([], [])` call (threaded select timeout) -/
theorem tick_idle (s : St) (t : Tick) (hi : anyReady t = false) (ha : Alive s) :
    tick s t = (norm s, .cont) := by
  unfold anyReady at hi
  simp only [Bool.or_eq_false_iff] at hi
  obtain ⟨⟨⟨h1, h2⟩, h3⟩, h4⟩ := hi
  unfold Alive at ha
  -- every phase has a false guard and leaves the state alone; the last line returns `False` by `Alive`.
  -- Unfolding all of them is the short way to the state equation, which `tick_cases` does not keep.
  unfold tick phaseCW phaseUW readHalf phaseCR phaseUR finish norm
  cases hr : s.readsTeared with
  | true =>
    have hb := ha hr
    simp [h2, h4, hb]
  | false =>
    simp [h1, h2, h3, h4]

theorem step_idle (s : St) (t : Tick) (hi : anyReady (mask (events s) t) = false) (ha : Alive s) :
    step s t = (norm s, .cont) := tick_idle s _ hi ha

/-! The cases of `fun_induction`, in order.  `threadedLoop`: script ended / inactive / the round
continues, tears down, raises.  `execLoop`: script ended / work ready and the round continues but
the reaper takes it, continues, tears down, raises / work not ready and the reaper takes it, or not. -/

theorem run_nil (s : St) : run s [] = (s, .cont) := rfl

theorem threadedLoop_run (rounds : List TRound) (s : St) :
    run s (threadedLoop s rounds).calls =
      ((threadedLoop s rounds).st, (threadedLoop s rounds).stop.toRet) := by
  fun_induction threadedLoop s rounds with
  | case1 => rfl
  | case2 => rfl
  | case3 s r rs _ s1 hs x ih => rw [run_cons, hs]; exact ih
  | case4 s r rs _ s1 hs => rw [run_cons, hs]; rfl
  | case5 s r rs _ s1 hs => rw [run_cons, hs]; rfl

theorem execLoop_run (rounds : List ERound) (s : St) :
    run s (execLoop s rounds).calls =
      ((execLoop s rounds).st, (execLoop s rounds).stop.toRet) := by
  fun_induction execLoop s rounds with
  | case1 => rfl
  | case2 s r rs _ s1 hs => rw [run_cons, hs]; rfl
  | case3 s r rs _ s1 hs _ x ih => rw [run_cons, hs]; exact ih
  | case4 s r rs _ s1 hs => rw [run_cons, hs]; rfl
  | case5 s r rs _ s1 hs => rw [run_cons, hs]; rfl
  | case6 => rfl
  | case7 s r rs _ _ ih => exact ih

theorem threadedLoop_calls_prefix (rounds : List TRound) (s : St) :
    (threadedLoop s rounds).calls <+: rounds.map (·.tick) := by
  fun_induction threadedLoop s rounds with
  | case1 => exact List.nil_prefix
  | case2 => exact List.nil_prefix
  | case3 s r rs _ s1 hs x ih => exact (List.prefix_cons_inj _).mpr ih
  | case4 => exact (List.prefix_cons_inj _).mpr List.nil_prefix
  | case5 => exact (List.prefix_cons_inj _).mpr List.nil_prefix

theorem execLoop_calls_sublist (rounds : List ERound) (s : St) :
    (execLoop s rounds).calls.Sublist (rounds.map (·.tick)) := by
  fun_induction execLoop s rounds with
  | case1 => exact .slnil
  | case3 s r rs _ s1 hs _ x ih => exact ih.cons_cons _
  | case6 => exact List.nil_sublist _
  | case7 s r rs _ _ ih => exact ih.cons _
  | _ => exact (List.nil_sublist _).cons_cons _

theorem reaped_hasBuffer (s : St) (o : Option Bool) (h : reaped s o = true) :
    s.client.hasBuffer = false := by
  cases o with
  | none => cases h
  | some e =>
    simp only [reaped, isInactive, Bool.and_eq_true, Bool.not_eq_true'] at h
    exact h.1

theorem threadedLoop_inactive (rounds : List TRound) (s : St)
    (h : (threadedLoop s rounds).stop = .inactive) :
    (threadedLoop s rounds).st.client.hasBuffer = false := by
  fun_induction threadedLoop s rounds with
  | case2 s r rs hi => exact reaped_hasBuffer s (some r.expired) hi
  | case3 s r rs _ s1 hs x ih => exact ih h
  | _ => cases h

theorem execLoop_inactive (rounds : List ERound) (s : St)
    (h : (execLoop s rounds).stop = .inactive) :
    (execLoop s rounds).st.client.hasBuffer = false := by
  fun_induction execLoop s rounds with
  | case2 s r rs _ s1 hs hp => exact reaped_hasBuffer _ _ hp
  | case3 s r rs _ s1 hs _ x ih => exact ih h
  | case6 s r rs _ hp => exact reaped_hasBuffer _ _ hp
  | case7 s r rs _ _ ih => exact ih h
  | _ => cases h

/-- the client's `send` does not fail (it may accept any number of bytes, or would-block) -/
def SendOk (t : Tick) : Prop := t.cSend ≠ .brokenPipe ∧ t.cSend ≠ .osError ∧ t.cSend ≠ .sslWantWrite

instance (t : Tick) : Decidable (SendOk t) := by unfold SendOk; infer_instance

theorem teardown_drained (s : St) (l : LoopRes) (hrun : run s l.calls = (l.st, l.stop.toRet))
    (hok : ∀ t ∈ l.calls, SendOk t) (h : l.stop = .teardown) : l.st.client.hasBuffer = false := by
  cases hb : l.st.client.hasBuffer with
  | false => rfl
  | true =>
    have hr : run s l.calls = (l.st, .teardown) := by rw [hrun, h]; rfl
    obtain ⟨s0, t, hm, ⟨_, _, hf⟩, _⟩ :=
      run_no_early_close l.calls s (congrArg Prod.snd hr) (by rw [hr]; exact hb)
    obtain ⟨h1, h2, h3⟩ := hok t hm
    exact (hf.elim h1 fun h => h.elim h2 h3).elim

theorem threadedLoop_teardown_drained (rounds : List TRound) (s : St)
    (hok : ∀ r ∈ rounds, SendOk r.tick) (h : (threadedLoop s rounds).stop = .teardown) :
    (threadedLoop s rounds).st.client.hasBuffer = false :=
  teardown_drained s _ (threadedLoop_run rounds s)
    (fun t ht => List.forall_mem_map.2 hok t ((threadedLoop_calls_prefix rounds s).subset ht)) h

theorem execLoop_teardown_drained (rounds : List ERound) (s : St)
    (hok : ∀ r ∈ rounds, SendOk r.tick) (h : (execLoop s rounds).stop = .teardown) :
    (execLoop s rounds).st.client.hasBuffer = false :=
  teardown_drained s _ (execLoop_run rounds s)
    (fun t ht => List.forall_mem_map.2 hok t ((execLoop_calls_sublist rounds s).subset ht)) h

/-- what the rest of a run depends on: the state up to the unread fields, and how the loop ended -/
def key (l : LoopRes) : St × LoopEnd := (norm l.st, l.stop)

theorem shiftRounds_cons (r : TRound) (rs : List TRound) :
    shiftRounds (r :: rs) = ⟨r.tick, rs.head?.map (·.expired)⟩ :: shiftRounds rs := by
  cases rs <;> rfl

/-- The threaded loop asks `is_inactive()` first; for the executor loop that was the reaper's
    question at the end of the round before, hence the `if`. -/
theorem loops_key (rs : List TRound) : ∀ (s s' : St), norm s' = norm s → Alive s →
    key (threadedLoop s rs) =
      if reaped s (rs.head?.map (·.expired)) then (norm s, .inactive)
      else key (execLoop s' (shiftRounds rs)) := by
  induction rs with
  | nil => intro s s' hn _; show (norm s, LoopEnd.scriptEnd) = (norm s', LoopEnd.scriptEnd); rw [hn]
  | cons r rs ih =>
    intro s s' hn ha
    show _ = if isInactive s r.expired then _ else _
    rw [threadedLoop, shiftRounds_cons, execLoop]
    by_cases hi : isInactive s r.expired = true
    · rw [if_pos hi, if_pos hi]; rfl
    · rw [if_neg hi, if_neg hi]
      by_cases hr : anyReady (mask (events s') r.tick) = true
      · rw [if_pos hr, step_of_norm_eq hn]
        rcases hs : step s r.tick with ⟨s1, ret⟩
        cases ret with
        | cont => rw [apply_ite key]; exact ih s1 s1 rfl (step_cont_alive hs)
        | teardown => rfl
        | raised => rfl
      · rw [if_neg hr, apply_ite key]
        rw [events_of_norm_eq hn] at hr
        rw [step_idle s r.tick (by simpa using hr) ha]
        show key (threadedLoop (norm s) rs) = _
        rw [ih (norm s) s' hn ha, reaped_of_norm_eq ((norm_idem s).trans hn.symm), norm_idem, ← hn]
        rfl

theorem loops_key_fresh (s : St) (rounds : List TRound) (ha : Alive s)
    (h0 : ∀ r, rounds.head? = some r → isInactive s r.expired = false) :
    key (threadedLoop s rounds) = key (execLoop s (shiftRounds rounds)) := by
  rw [loops_key rounds s s rfl ha, if_neg]
  cases rounds with
  | nil => nofun
  | cons r rs => show ¬ isInactive s r.expired = true; rw [h0 r rfl]; nofun

theorem shutdown_plain (threaded : Bool) (m : Nat) (c : Conn) (script : List SelEv)
    (h : threaded = false ∨ c.hasBuffer = false) :
    shutdown threaded m c script = ⟨{ c with closed := true }, [], none, true⟩ := by
  unfold shutdown
  rw [if_neg]
  rcases h with h | h <;> simp [h]

theorem goodTick_ready (s : St) (t : Tick) (hb : s.client.hasBuffer = true) (hg : GoodTick t) :
    anyReady (mask (events s) t) = true := by
  obtain ⟨hw, _⟩ := hg
  simp [anyReady, mask, events, hw, hb]

/-- the work is ready in every round, and the reaper does not take a connection with output pending -/
theorem execLoop_final_flush (rounds : List ERound) (s : St) (hf : FinalFlush s)
    (hb : s.client.hasBuffer = true) (hg : ∀ r ∈ rounds, GoodTick r.tick) :
    ((execLoop s rounds).st, (execLoop s rounds).stop.toRet) = run s (rounds.map (·.tick)) := by
  induction rounds generalizing s with
  | nil => rfl
  | cons r rs ih =>
    have hgr := hg r List.mem_cons_self
    rw [execLoop, if_pos (goodTick_ready s r.tick hb hgr), List.map_cons, run_cons]
    have hfin := (step_final_good s r.tick hf hb hgr).2.2
    generalize step s r.tick = x at hfin ⊢
    obtain ⟨s1, ret⟩ := x
    cases ret with
    | cont =>
      obtain ⟨h, _⟩ | ⟨_, hf1, hb1⟩ := hfin
      · exact nomatch h
      have hnr : ¬ reaped s1 r.reap = true := fun h => by rw [reaped_hasBuffer _ _ h] at hb1; cases hb1
      dsimp only
      rw [if_neg hnr, if_pos rfl]
      exact ih s1 hf1 hb1 (fun r' hr' => hg r' (List.mem_cons_of_mem _ hr'))
    | teardown => rfl
    | raised => rfl

theorem recvAll_pairs (l : List Nat) : recvAll (l.flatMap pairOf) = some (l.map (fun j => (j, j))) := by
  induction l with
  | nil => rfl
  | cons a l ih =>
    show (recvAll (l.flatMap pairOf)).map ((a, a) :: ·) = _
    rw [ih]; rfl

/-- threads that do not hold the lock have not started or are finished; the pipe holds the intact
    pairs of the earlier acquisitions and a prefix of the current holder's pair -/
def HInv (s : HS) : Prop :=
  (∀ j, s.lock ≠ some j → s.pc j = 0 ∨ 4 ≤ s.pc j) ∧
  (match s.lock with
   | none => s.pipe = s.acq.flatMap pairOf
   | some i => ∃ acq', s.acq = acq' ++ [i] ∧
      ((s.pc i = 1 ∧ s.pipe = acq'.flatMap pairOf) ∨
       (s.pc i = 2 ∧ s.pipe = acq'.flatMap pairOf ++ [.addr i]) ∨
       (s.pc i = 3 ∧ s.pipe = acq'.flatMap pairOf ++ pairOf i)))

theorem upd_same (f : Nat → Nat) (i v : Nat) : upd f i v i = v := by simp [upd]

theorem upd_other (f : Nat → Nat) (i v j : Nat) (h : j ≠ i) : upd f i v j = f j := by simp [upd, h]

theorem hstep_done (s : HS) (i : Nat) (h : 4 ≤ s.pc i) : hstep lockedProg s i = s := by
  unfold hstep; rw [List.getElem?_eq_none (l := lockedProg) h]

theorem hstep_acquire (s : HS) (i : Nat) (h : s.pc i = 0) (hl : s.lock = none) :
    hstep lockedProg s i = { s with lock := some i, pc := upd s.pc i 1, acq := s.acq ++ [i] } := by
  unfold hstep; rw [h, hl]; rfl

theorem hstep_blocked (s : HS) (i k : Nat) (h : s.pc i = 0) (hl : s.lock = some k) :
    hstep lockedProg s i = s := by
  unfold hstep; rw [h, hl]; rfl

theorem hstep_sendAddr (s : HS) (i : Nat) (h : s.pc i = 1) :
    hstep lockedProg s i = { s with pipe := s.pipe ++ [.addr i], pc := upd s.pc i 2 } := by
  unfold hstep; rw [h]; rfl

theorem hstep_sendFd (s : HS) (i : Nat) (h : s.pc i = 2) :
    hstep lockedProg s i = { s with pipe := s.pipe ++ [.fd i], pc := upd s.pc i 3 } := by
  unfold hstep; rw [h]; rfl

theorem hstep_release (s : HS) (i : Nat) (h : s.pc i = 3) :
    hstep lockedProg s i = { s with lock := none, pc := upd s.pc i 4 } := by
  unfold hstep; rw [h]; rfl

theorem hstep_inv (s : HS) (i : Nat) (h : HInv s) : HInv (hstep lockedProg s i) := by
  obtain ⟨pipe, lock, pc, acq⟩ := s
  obtain ⟨h1, h2⟩ := h
  dsimp only at h1 h2
  -- when `i` holds the lock after its step, the other threads are where they were and do not hold it
  have others (v : Nat) (hl : lock = none ∨ lock = some i) (j : Nat) (hj : some i ≠ some j) :
      upd pc i v j = 0 ∨ 4 ≤ upd pc i v j := by
    rw [upd_other _ _ _ _ fun c => hj (congrArg some c).symm]
    rcases hl with hl | hl <;> refine h1 j ?_ <;> rw [hl]
    · nofun
    · exact hj
  cases lock with
  | none =>
    rcases h1 i nofun with hp | hp
    · rw [hstep_acquire _ i hp rfl]
      exact ⟨others 1 (.inl rfl), acq, rfl, .inl ⟨upd_same _ _ _, h2⟩⟩
    · rw [hstep_done _ i hp]; exact ⟨h1, h2⟩
  | some k =>
    obtain ⟨acq', ha, hc⟩ := h2
    by_cases hik : i = k
    · subst hik
      rcases hc with ⟨hp, hq⟩ | ⟨hp, hq⟩ | ⟨hp, hq⟩
      · rw [hstep_sendAddr _ i hp]
        exact ⟨others 2 (.inr rfl), acq', ha, .inr (.inl ⟨upd_same _ _ _, congrArg (· ++ _) hq⟩)⟩
      · rw [hstep_sendFd _ i hp]
        exact ⟨others 3 (.inr rfl), acq', ha,
          .inr (.inr ⟨upd_same _ _ _, (congrArg (· ++ _) hq).trans (List.append_assoc ..)⟩)⟩
      · rw [hstep_release _ i hp]
        refine ⟨fun j _ => ?_, ?_⟩
        · show upd pc i 4 j = 0 ∨ 4 ≤ upd pc i 4 j
          by_cases hji : j = i
          · subst hji; exact .inr (Nat.le_of_eq (upd_same _ _ _).symm)
          · rw [upd_other _ _ _ _ hji]; exact h1 j fun c => hji (Option.some.inj c).symm
        · show pipe = acq.flatMap pairOf
          rw [hq, ha, List.flatMap_append, List.flatMap_singleton]
    · rcases h1 i (fun c => hik (Option.some.inj c).symm) with hp | hp
      · rw [hstep_blocked _ i k hp rfl]; exact ⟨h1, acq', ha, hc⟩
      · rw [hstep_done _ i hp]; exact ⟨h1, acq', ha, hc⟩

theorem hrun_inv_from (sched : List Nat) (s : HS) (h : HInv s) :
    HInv (sched.foldl (hstep lockedProg) s) := by
  induction sched generalizing s with
  | nil => exact h
  | cons i is ih => exact ih _ (hstep_inv s i h)

theorem qrun_account (ops : List QOp) (s : QS) :
    (ops.foldl qstep s).got.filterMap id ++ (ops.foldl qstep s).q =
      s.got.filterMap id ++ s.q ++ putsOf ops := by
  induction ops generalizing s with
  | nil => simp [putsOf]
  | cons o os ih =>
    rw [List.foldl_cons, ih]
    cases o with
    | put x => simp [qstep, putsOf]
    | get =>
      cases hq : s.q with
      | nil => simp [qstep, hq, putsOf]
      | cons y r => simp [qstep, hq, putsOf]

end Px.Modes

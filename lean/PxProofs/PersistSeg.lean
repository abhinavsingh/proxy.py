import PxProofs.PersistRefine
import PxProofs.ForwardFeed
import PxProofs.ParserCompletion
/-!
# C04: a stream of requests through the follow-up loop, any packing

`oneReq x = some P`: fed to a fresh request parser in one piece, `x` is exactly
one request — complete, nothing left over.  By C03 a parser fed the stream
`x₁ ++ x₂ ++ …` in segments cut anywhere completes each request exactly at its last
byte, as its one-piece parse up to the byte counter (`feed_cases`).  Hence the loop of
fix 84c574d hands over exactly the requests that end inside the segment it is given
(`pipeLoop_stream`), and any run that calls it once per segment hands over all of
them (`loopSegs_all`); `first_request` is the induction up to the segment that completes the
first request of a connection.

The C04 files build on each other: `PersistLemmas` (a benign tick only moves bytes: `Quiet`, `tick_benign`),
`PersistRefine` (`segRun`; benign schedules refine it: `frun_refines`), this file, then one file per
server: `PersistFwd`, `PersistWeb`, `PersistRev`.
-/
namespace Px.Persist
open Px Px.Relay Px.Parser

/-- the one-piece parse of `x`, if `x` is exactly one complete request -/
def oneReq (x : Bytes) : Option Parser :=
  match parse Forward.pcfg (init .request) x with
  | .ok P => if P.state == .complete && P.buffer.isNone then some P else none
  | .error _ => none

theorem oneReq_spec {x : Bytes} {P : Parser} (h : oneReq x = some P) :
    parse Forward.pcfg (init .request) x = .ok P ∧ P.state = .complete ∧ P.buffer = none := by
  unfold oneReq at h
  split at h
  · split at h
    · next Q hp hc =>
      cases h
      simpa [hp] using hc
    · cases h
  · cases h

theorem oneReq_ne_nil {x : Bytes} {P : Parser} (h : oneReq x = some P) : x ≠ [] := by
  intro hx
  subst hx
  have : oneReq [] = none := by decide +kernel
  rw [this] at h; cases h

/-- the request as handed over: the byte counter also counts what followed it in its segment -/
def withTotal (P : Parser) (n : Nat) : Parser := { P with totalSize := n }

/-- `p` is the parser that has consumed exactly `d`, the beginning of a request not yet complete -/
def CanonP (d : Bytes) (p : Parser) : Prop :=
  (d = [] ∧ p = init .request) ∨
  (d ≠ [] ∧ parse Forward.pcfg (init .request) d = .ok p ∧ p.state ≠ .complete)

theorem CanonP.incomplete {d : Bytes} {p : Parser} (h : CanonP d p) : p.state ≠ .complete := by
  rcases h with ⟨_, rfl⟩ | ⟨_, _, h⟩
  · simp [init]
  · exact h

theorem parse_append {a : Bytes} {q : Parser} (h : parse Forward.pcfg (init .request) a = .ok q) (z : Bytes) :
    parse Forward.pcfg (init .request) (a ++ z) = parse Forward.pcfg q z := by
  rw [Forward.parse_init_append, h]
  rfl

theorem CanonP.parse {d : Bytes} {p : Parser} (h : CanonP d p) (seg : Bytes) :
    Px.Parser.parse Forward.pcfg p seg = Px.Parser.parse Forward.pcfg (init .request) (d ++ seg) := by
  rcases h with ⟨rfl, rfl⟩ | ⟨_, hp, _⟩
  · rfl
  · exact (parse_append hp seg).symm

theorem cut_cases {seg rest u tail : Bytes} (h : seg ++ rest = u ++ tail) :
    (∃ a, a ≠ [] ∧ u = seg ++ a ∧ rest = a ++ tail) ∨ (∃ c, seg = u ++ c ∧ tail = c ++ rest) := by
  rcases List.append_eq_append_iff.1 h with ⟨a, h1, h2⟩ | ⟨c, h1, h2⟩
  · by_cases ha : a = []
    · subst ha
      exact .inr ⟨[], by simpa using h1.symm, by simpa using h2.symm⟩
    · exact .inl ⟨a, ha, h1, h2⟩
  · exact .inr ⟨c, h1, h2⟩

theorem feed_cases {x : Bytes} {P : Parser} (ho : oneReq x = some P) {d seg rest tail : Bytes} {p : Parser}
    (hp : CanonP d p) (hseg : seg ≠ []) (h : d ++ seg ++ rest = x ++ tail) :
    (∃ a p', a ≠ [] ∧ x = d ++ seg ++ a ∧ Px.Parser.parse Forward.pcfg p seg = .ok p' ∧ CanonP (d ++ seg) p') ∨
    (∃ c n, d ++ seg = x ++ c ∧ tail = c ++ rest ∧ Px.Parser.parse Forward.pcfg p seg =
      .ok { withTotal P n with buffer := if c.isEmpty then none else some c }) := by
  obtain ⟨hparse, hst, hb⟩ := oneReq_spec ho
  rw [hp.parse]
  rcases cut_cases h with ⟨a, ha, hx, _⟩ | ⟨c, hx, htail⟩
  · obtain ⟨p', hp', hnc⟩ := no_prefix_complete Forward.pcfg (wf_init .request) hparse hst hb (d ++ seg) a hx ha
    exact .inl ⟨a, p', ha, hx, hp', .inr ⟨by simp [hseg], hp', hnc⟩⟩
  · refine .inr ⟨c, P.totalSize + c.length, hx, htail, ?_⟩
    rw [hx, parse_append hparse, Forward.parse_of_complete Forward.pcfg P c hst]
    simp only [bufBytes, hb]
    rfl

theorem withTotal_clear {P : Parser} (hb : P.buffer = none) (n : Nat) :
    ({ withTotal P n with buffer := none } : Parser) = withTotal P n := by
  cases P
  simp only at hb
  subst hb
  rfl

/-- requests with their one-piece parses -/
abbrev Reqs := List (Bytes × Parser)

def stream (rs : Reqs) : Bytes := (rs.map (·.1)).flatten

theorem stream_cons (x : Bytes) (P : Parser) (tl : Reqs) : stream ((x, P) :: tl) = x ++ stream tl := rfl

/-- Where the follow-up loop stands in the stream of requests `rs`: between two requests, or inside the
    head request, having consumed its strict prefix `d` with `p` as pipeline parser. -/
inductive Mid : Reqs → Bytes → Option Parser → Prop
  | idle (rs : Reqs) : Mid rs [] none
  | inside {x u d : Bytes} {P p : Parser} {tl : Reqs} : d ≠ [] → CanonP d p → x = d ++ u → u ≠ [] →
      Mid ((x, P) :: tl) d (some p)

theorem Mid.canon {rs : Reqs} {d : Bytes} {pl : Option Parser} (h : Mid rs d pl) :
    CanonP d (pl.getD (init .request)) := by
  cases h with
  | idle => exact .inl ⟨rfl, rfl⟩
  | inside _ hp _ _ => exact hp

theorem Mid.strict {r : Bytes × Parser} {tl : Reqs} {d : Bytes} {pl : Option Parser} (h : Mid (r :: tl) d pl)
    (ho : oneReq r.1 = some r.2) : ∃ u, r.1 = d ++ u ∧ u ≠ [] := by
  cases h with
  | idle => exact ⟨r.1, rfl, oneReq_ne_nil ho⟩
  | inside _ _ hx hu => exact ⟨_, hx, hu⟩

/-- the requests as handed over, `ns` being their byte counters -/
def handed : Reqs → List Nat → List Parser
  | r :: rs, n :: ns => withTotal r.2 n :: handed rs ns
  | _, _ => []

theorem pipeLoop_nil {σ : Type} (h : Hooks σ) (fuel : Nat) (s : σ) (pl : Option Parser) :
    pipeLoop h fuel s pl [] = (s, pl, .ok) := by
  cases fuel <;> rfl

theorem pipeLoop_parsed {σ : Type} (h : Hooks σ) (fuel : Nat) (s : σ) (pl : Option Parser) {raw : Bytes}
    (hne : raw.isEmpty = false) (hby : h.bypass s pl raw = none) {p' : Parser}
    (hp : parse Forward.pcfg (pl.getD (init .request)) raw = .ok p') :
    pipeLoop h (fuel + 1) s pl raw =
      if p'.state == .complete then
        match h.complete s { p' with buffer := none } with
        | .stop s' keep e => (s', keep, e)
        | .next s' keep =>
          match p'.buffer with
          | none => (s', keep, .ok)
          | some rest => pipeLoop h fuel s' keep rest
      else (s, some p', .ok) := by
  rw [pipeLoop]
  simp only [hne, Bool.false_eq_true, if_false, hby, hp]
  rfl

/-- One call of the loop, from `s` with `rest` of the stream `rs` still to come, returned `out`: the requests
    `done` that ended inside the segment were handed over (`ns`: their byte counters), and the loop stands
    at `d'`, `pl'` in the remaining requests `rs'`. -/
structure Fed {σ : Type} (step : σ → Parser → σ) (I : σ → Prop) (rs : Reqs) (rest : Bytes) (s : σ)
    (out : σ × Option Parser × LoopEnd) (done rs' : Reqs) (ns : List Nat) (d' : Bytes) (pl' : Option Parser) :
    Prop where
  split : rs = done ++ rs'
  counters : ns.length = done.length
  loop : out = ((handed done ns).foldl step s, pl', .ok)
  mid : Mid rs' d' pl'
  stream : d' ++ rest = stream rs'
  inv : I ((handed done ns).foldl step s)

theorem pipeLoop_stream {σ : Type} (h : Hooks σ) (step : σ → Parser → σ) (I : σ → Prop)
    (hby : ∀ s pl raw, (∀ p, pl = some p → p.state ≠ .complete) → h.bypass s pl raw = none)
    (rs : Reqs) (hone : ∀ r ∈ rs, oneReq r.1 = some r.2)
    (hgood : ∀ r ∈ rs, ∀ s n, I s →
      h.complete s (withTotal r.2 n) = .next (step s (withTotal r.2 n)) none ∧ I (step s (withTotal r.2 n)))
    (d seg rest : Bytes) (pl : Option Parser) (hmid : Mid rs d pl)
    (hstream : d ++ seg ++ rest = stream rs) (fuel : Nat) (hfuel : seg.length < fuel) (s : σ) (hI : I s) :
    ∃ (done rs' : Reqs) (ns : List Nat) (d' : Bytes) (pl' : Option Parser),
      Fed step I rs rest s (pipeLoop h fuel s pl seg) done rs' ns d' pl' := by
  induction fuel generalizing rs d seg pl s with
  | zero => exact absurd hfuel (Nat.not_lt_zero _)
  | succ fuel ih =>
    by_cases hseg : seg = []
    · subst hseg
      exact ⟨[], rs, [], d, pl, rfl, rfl, pipeLoop_nil h _ s pl, hmid, by simpa using hstream, hI⟩
    cases rs with
    | nil =>
      simp only [stream, List.map_nil, List.flatten_nil, List.append_eq_nil_iff] at hstream
      exact absurd hstream.1.2 hseg
    | cons r tl =>
      obtain ⟨x, P⟩ := r
      have ho : oneReq x = some P := hone (x, P) (by simp)
      obtain ⟨u, hxu, hune⟩ : ∃ u, x = d ++ u ∧ u ≠ [] := hmid.strict ho
      have hsegE : seg.isEmpty = false := by simpa using hseg
      have hbyp : h.bypass s pl seg = none :=
        hby s pl seg fun p hp => by have := hmid.canon.incomplete; rwa [hp] at this
      rcases feed_cases ho hmid.canon hseg (hstream.trans (stream_cons x P tl)) with
        ⟨a, p', ha, hxa, hp', hc'⟩ | ⟨c, n, hdc, htl, hp'⟩
      · refine ⟨[], (x, P) :: tl, [], d ++ seg, some p', rfl, rfl, ?_, .inside (by simp [hseg]) hc' hxa ha,
          hstream, hI⟩
        have : (p'.state == PState.complete) = false := by simpa using hc'.incomplete
        rw [pipeLoop_parsed h fuel s pl hsegE hbyp hp', this]
        rfl
      · obtain ⟨_, hst, hbuf⟩ := oneReq_spec ho
        have hpst : ((withTotal P n).state == PState.complete) = true := by simp [withTotal, hst]
        obtain ⟨hg, hI'⟩ := hgood (x, P) (by simp) s n hI
        have hfuel' : c.length < fuel := by
          have hl := congrArg List.length hdc
          simp only [hxu, List.length_append] at hl
          have : 0 < u.length := List.length_pos_iff.mpr hune
          omega
        obtain ⟨done, rs', ns, d', pl', f⟩ :=
          ih tl (fun r hr => hone r (by simp [hr])) (fun r hr => hgood r (by simp [hr])) [] c none
            (.idle tl) (by simpa using htl.symm) hfuel' (step s (withTotal P n)) hI'
        refine ⟨(x, P) :: done, rs', n :: ns, d', pl', by rw [f.split]; rfl, by simp [f.counters], ?_, f.mid,
          f.stream, f.inv⟩
        rw [pipeLoop_parsed h fuel s pl hsegE hbyp hp']
        simp only [hpst, if_true, withTotal_clear hbuf n, hg]
        cases c <;> simp only [List.isEmpty_nil, List.isEmpty_cons, if_true, Bool.false_eq_true, if_false]
        · rw [← pipeLoop_nil h fuel (step s (withTotal P n)) none]; exact f.loop
        · exact f.loop

theorem stream_end {rs : Reqs} (hone : ∀ r ∈ rs, oneReq r.1 = some r.2) {d : Bytes} {pl : Option Parser}
    (hmid : Mid rs d pl) (h : d = stream rs) : rs = [] ∧ pl = none := by
  cases rs with
  | nil =>
    cases hmid
    exact ⟨rfl, rfl⟩
  | cons r tl =>
    -- `d` would be a strict prefix of the head request and all of the stream
    obtain ⟨u, hx, hu⟩ := hmid.strict (hone r (by simp))
    rw [stream, List.map_cons, List.flatten_cons, hx, List.append_assoc] at h
    simp only [List.self_eq_append_right, List.append_eq_nil_iff] at h
    exact absurd h.1 hu

theorem handed_eq (a : Reqs) (ns : List Nat) : handed a ns = List.zipWith (fun r n => withTotal r.2 n) a ns := by
  induction a generalizing ns with
  | nil => cases ns <;> rfl
  | cons r a ih =>
    cases ns with
    | nil => rfl
    | cons n ns => rw [handed, ih, List.zipWith_cons_cons]

theorem handed_append (a b : Reqs) (ns ms : List Nat) (h : ns.length = a.length) :
    handed (a ++ b) (ns ++ ms) = handed a ns ++ handed b ms := by
  rw [handed_eq, handed_eq, handed_eq, List.zipWith_append h.symm]

theorem handed_length (a : Reqs) (ns : List Nat) (h : ns.length = a.length) : (handed a ns).length = a.length := by
  rw [handed_eq, List.length_zipWith, h, Nat.min_self]

theorem handed_map {β : Type} (g : Parser → β) (hg : ∀ P n, g (withTotal P n) = g P) (a : Reqs) (ns : List Nat)
    (h : ns.length = a.length) : (handed a ns).map g = a.map (fun r => g r.2) := by
  induction a generalizing ns with
  | nil => cases ns <;> rfl
  | cons r a ih =>
    cases ns with
    | nil => simp at h
    | cons n ns => rw [handed, List.map_cons, List.map_cons, hg, ih ns (by simpa using h)]

theorem handed_spec (a : Reqs) (ns : List Nat) (h : ns.length = a.length) :
    (handed a ns).map (fun P => withTotal P 0) = a.map (fun r => withTotal r.2 0) :=
  handed_map _ (fun _ _ => rfl) a ns h

/-- `run` is any run over client segments that, from a state satisfying `I`, begins with one call of the
    loop on the next segment and goes on if that returns normally. -/
theorem loopSegs_all {σ α : Type} (h : Hooks σ) (step : σ → Parser → σ) (I : σ → Prop)
    (hby : ∀ s pl raw, (∀ p, pl = some p → p.state ≠ .complete) → h.bypass s pl raw = none)
    (run : σ × Option Parser → List Bytes → α)
    (hrun : ∀ s pl x xs s' pl', I s → pipeLoop h (x.length + 1) s pl x = (s', pl', .ok) →
      run (s, pl) (x :: xs) = run (s', pl') xs)
    (segs : List Bytes) (rs : Reqs) (hone : ∀ r ∈ rs, oneReq r.1 = some r.2)
    (hgood : ∀ r ∈ rs, ∀ s n, I s →
      h.complete s (withTotal r.2 n) = .next (step s (withTotal r.2 n)) none ∧ I (step s (withTotal r.2 n)))
    (d : Bytes) (pl : Option Parser) (hmid : Mid rs d pl)
    (hstream : d ++ segs.flatten = stream rs) (s : σ) (hI : I s) :
    ∃ ns : List Nat, ns.length = rs.length ∧
      run (s, pl) segs = run ((handed rs ns).foldl step s, none) [] := by
  induction segs generalizing rs d pl s with
  | nil =>
    obtain ⟨rfl, rfl⟩ := stream_end hone hmid (by simpa using hstream)
    exact ⟨[], rfl, rfl⟩
  | cons seg segs ih =>
    obtain ⟨done, rs', ns, d', pl', f⟩ :=
      pipeLoop_stream h step I hby rs hone hgood d seg segs.flatten pl hmid
        (by simpa [List.append_assoc] using hstream) (seg.length + 1) (by omega) s hI
    obtain rfl := f.split
    obtain ⟨ns', g1, g2⟩ :=
      ih rs' (fun r hr => hone r (by simp [hr])) (fun r hr => hgood r (by simp [hr])) d' pl' f.mid f.stream _ f.inv
    refine ⟨ns ++ ns', by simp [f.counters, g1], ?_⟩
    rw [hrun s pl seg segs _ pl' hI f.loop, g2, handed_append done rs' ns ns' f.counters, List.foldl_append]

/-- Induction over the segments up to the one in which the first request `x` of a connection completes;
    `M` speaks of the parser of the first request so far.  In `done` the leftover `b` is one more segment
    for the follow-up loop.  Only here must segments be non-empty: the loop returns at once on an empty one. -/
theorem first_request {x : Bytes} {P : Parser} (ho : oneReq x = some P) (rest : Bytes)
    {M : Parser → List Bytes → Prop}
    (more : ∀ p seg segs p', parse Forward.pcfg p seg = .ok p' → (p'.state != .complete) = true → M p' segs →
      M p (seg :: segs))
    (done : ∀ p seg segs n b, parse Forward.pcfg p seg = .ok { withTotal P n with buffer := b } →
      ((withTotal P n).state != .complete) = false → (b.toList ++ segs).flatten = rest → M p (seg :: segs))
    (segs : List Bytes) (hne : ∀ seg ∈ segs, seg ≠ []) (hflat : segs.flatten = x ++ rest) :
    M (init .request) segs := by
  -- in general `p` has consumed a strict prefix `d` of `x`
  have gen : ∀ segs : List Bytes, (∀ seg ∈ segs, seg ≠ []) → ∀ d p u, CanonP d p → x = d ++ u → u ≠ [] →
      d ++ segs.flatten = x ++ rest → M p segs := by
    intro segs
    induction segs with
    | nil =>
      intro _ d p u _ hx hu hflat
      rw [hx, List.append_assoc] at hflat
      simp only [List.flatten_nil, List.append_cancel_left_eq, List.nil_eq, List.append_eq_nil_iff] at hflat
      exact absurd hflat.1 hu
    | cons seg segs ih =>
      intro hne d p u hp hx hu hflat
      rw [List.flatten_cons, ← List.append_assoc] at hflat
      rcases feed_cases ho hp (hne seg (by simp)) hflat with ⟨a, p', ha, hxa, hp', hc'⟩ | ⟨c, n, _, hrest, hp'⟩
      · exact more p seg segs p' hp' (by simpa using hc'.incomplete) <|
          ih (fun y hy => hne y (by simp [hy])) (d ++ seg) p' a hc' hxa ha hflat
      · refine done p seg segs n _ hp' (by simp [withTotal, (oneReq_spec ho).2.1]) ?_
        by_cases hc : c = [] <;> simp [hc, hrest]
  exact gen segs hne [] _ x (.inl ⟨rfl, rfl⟩) rfl (oneReq_ne_nil ho) hflat

end Px.Persist

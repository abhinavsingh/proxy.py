import PxModel.Forward
import PxProofs.BuildParse
import PxProofs.ParserAppend
/-!
# C02: any segmentation

A request parser reads `a ++ z` as `a`, then `z` (`parse_request_append`), so feeding it pieces ends in the
same parser state as feeding their concatenation, exactly when the last byte has arrived (`feed_complete`);
`feed_segmented` is this for `render r`, cut into any pieces, and a fresh parser.
-/
namespace Px.Forward

open Px.Parser Px.Build

theorem parseAll_append (cfg : Px.Parser.Cfg) (p : Parser) (a b : List Bytes) :
    parseAll cfg p (a ++ b) = (parseAll cfg p a).bind (fun p' => parseAll cfg p' b) := by
  induction a generalizing p with
  | nil => rfl
  | cons x xs ih =>
    simp only [List.cons_append, parseAll]
    cases parse cfg p x with
    | error e => rfl
    | ok p' => exact ih p'

theorem parse_of_complete (cfg : Px.Parser.Cfg) (p : Parser) (z : Bytes) (hc : p.state = .complete) :
    parse cfg p z = .ok { p with totalSize := p.totalSize + z.length,
                                 buffer := if (bufBytes p ++ z).isEmpty then none else some (bufBytes p ++ z) } := by
  rw [parse_eq]
  have hc' : ({ p with totalSize := p.totalSize + z.length, buffer := none } : Parser).state = .complete := hc
  rw [loop_done _ _ (.inr hc')]
  rfl

/-- a request parser reads `a ++ z` as `a`, then `z` -/
theorem parse_request_append (cfg : Px.Parser.Cfg) {p : Parser} (hw : WF p) (hty : p.ty = .request) (a z : Bytes) :
    parse cfg p (a ++ z) = (parse cfg p a).bind (fun q => parse cfg q z) :=
  Px.Parser.parse_append cfg a z hw fun _ hq => closeDelimited_request ((parse_ty cfg hq).trans hty)

theorem parse_init_append (a z : Bytes) :
    parse pcfg (init .request) (a ++ z) = (parse pcfg (init .request) a).bind (fun q => parse pcfg q z) :=
  parse_request_append pcfg (wf_init .request) rfl a z

/-- `rest.flatten = []`: only empty pieces, which `recv` never returns, can follow -/
theorem feed_complete {p P : Parser} (hw : WF p) (hty : p.ty = .request) (hnc : p.state ≠ .complete)
    (hc : P.state = .complete) (hb : P.buffer = none) (segs : List Bytes)
    (hP : parse pcfg p segs.flatten = .ok P) :
    ∃ rest, feedUntilComplete pcfg p segs = .ok (P, rest) ∧ rest.flatten = [] := by
  induction segs generalizing p with
  | nil =>
    rw [List.flatten_nil, parse_nil pcfg hw.2] at hP
    cases hP
    exact absurd hc hnc
  | cons s todo ih =>
    rw [List.flatten_cons, parse_request_append pcfg hw hty] at hP
    unfold feedUntilComplete
    cases hps : parse pcfg p s with
    | error e => rw [hps] at hP; cases hP
    | ok p' =>
      rw [hps] at hP
      have hw' := parse_wf pcfg hw hps
      by_cases hpc : p'.state = .complete
      · -- complete: were a non-empty piece to follow, it would sit in `P.buffer`
        have h3 : P = _ := Except.ok.inj (hP.symm.trans (parse_of_complete pcfg p' _ hpc))
        have hz : todo.flatten = [] := by
          rw [h3] at hb
          by_cases he : (bufBytes p' ++ todo.flatten).isEmpty = true
          · exact (List.append_eq_nil_iff.1 (List.isEmpty_iff.1 he)).2
          · simp [he] at hb
        rw [hz] at hP
        cases hP.symm.trans (parse_nil pcfg hw'.2)
        exact ⟨todo, by simp [hpc], hz⟩
      · simp only [show (p'.state == PState.complete) = false by simpa using hpc, Bool.false_eq_true, if_false]
        exact ih hw' ((parse_ty pcfg hps).trans hty) hpc hP

theorem feed_segmented {x : Bytes} {P : Parser} (hP : parse pcfg (init .request) x = .ok P)
    (hc : P.state = .complete) (hb : P.buffer = none) (segs : List Bytes) (hs : segs.flatten = x) :
    ∃ rest, feedUntilComplete pcfg (init .request) segs = .ok (P, rest) ∧ rest.flatten = [] :=
  feed_complete (wf_init .request) rfl (by simp [init]) hc hb segs (hs ▸ hP)
end Px.Forward

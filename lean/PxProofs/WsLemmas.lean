import PxModel.Ws
/-! WebSocket frame codec: `build` against `parse` (round trip) and against
`rfcEncode` (the RFC's frame diagram). The two header bytes are settled by
`decide` over all their values. -/
namespace Px.Ws

theorem maskAux_inv (m : Bytes) (i : Nat) (d : Bytes) : maskAux m i (maskAux m i d) = d := by
  induction d generalizing i with
  | nil => rfl
  | cons c cs ih => simp [maskAux, ih, UInt8.xor_assoc]

theorem maskAux_length (m : Bytes) (i : Nat) (d : Bytes) : (maskAux m i d).length = d.length := by
  induction d generalizing i with
  | nil => rfl
  | cons c cs ih => simp [maskAux, ih]

theorem maskAux_zipIdx (key : Bytes) (i : Nat) (d : Bytes) :
    maskAux key i d = (d.zipIdx i).map (fun (c, j) => c ^^^ key.getD (j % 4) 0) := by
  induction d generalizing i with
  | nil => rfl
  | cons c cs ih => simp [maskAux, ih, List.zipIdx_cons]

theorem applyMask_ok (d m : Bytes) (h : m.length = 4) : applyMask d m = .ok (maskAux m 0 d) := by
  unfold applyMask; rw [if_neg (by omega)]

theorem beEncode_length (k n : Nat) : (beEncode k n).length = k := by
  induction k with
  | zero => rfl
  | succ k ih => simp [beEncode, ih]

theorem foldl_beEncode (k n acc : Nat) :
    (beEncode k n).foldl (fun acc c => acc * 256 + c.toNat) acc = acc * 256 ^ k + n % 256 ^ k := by
  induction k generalizing acc with
  | zero => simp [beEncode, Nat.mod_one]
  | succ k ih =>
    rw [beEncode, List.foldl_cons, ih, UInt8.toNat_ofNat_of_lt' (Nat.mod_lt _ (by decide)), Nat.pow_succ,
      Nat.mod_mul, Nat.add_mul]
    ac_rfl

theorem beDecode_beEncode (k n : Nat) (h : n < 256 ^ k) : beDecode (beEncode k n) = n := by
  rw [beDecode, foldl_beEncode, Nat.zero_mul, Nat.zero_add, Nat.mod_eq_of_lt h]

/-- The `|` of the fields is their sum, which is the form `rfcEncode` writes. -/
theorem byte0_table : ∀ (fin r1 r2 r3 : Bool) (op : Fin 16),
    let b0 := bit fin 128 ||| bit r1 64 ||| bit r2 32 ||| bit r3 16 ||| op.val
    b0 = (if fin then 1 else 0) * 128 + (if r1 then 1 else 0) * 64 + (if r2 then 1 else 0) * 32 +
      (if r3 then 1 else 0) * 16 + op.val ∧
    b0 ≤ 255 ∧ ((b0 &&& 128) != 0) = fin ∧ ((b0 &&& 64) != 0) = r1 ∧ ((b0 &&& 32) != 0) = r2 ∧
    ((b0 &&& 16) != 0) = r3 ∧ (b0 &&& 15) = op.val := by decide +kernel

theorem byte1_table : ∀ (m : Bool) (n : Fin 128),
    let b1 := bit m 128 ||| n.val
    b1 = (if m then 128 else 0) + n.val ∧ b1 ≤ 255 ∧ ((b1 &&& 128) != 0) = m ∧ (b1 &&& 127) = n.val := by
  decide +kernel

theorem byte1_toNat (m : Bool) (n : Nat) (h : n < 128) :
    (((UInt8.ofNat (bit m 128 ||| n)).toNat &&& 128) != 0) = m ∧
    (UInt8.ofNat (bit m 128 ||| n)).toNat &&& 127 = n := by
  obtain ⟨_, hle, hm, hn⟩ := byte1_table m ⟨n, h⟩
  rw [UInt8.toNat_ofNat_of_lt' (Nat.lt_succ_of_le hle)]
  exact ⟨hm, hn⟩

theorem lenRest_small (l7 : Nat) (rest : Bytes) (h : l7 < 126) : lenRest l7 rest = .ok (l7, rest) := by
  have h1 : ¬ l7 = 126 := by omega
  have h2 : ¬ l7 = 127 := by omega
  simp [lenRest, h1, h2]

theorem lenRest_126 (ext x : Bytes) (h : ext.length = 2) : lenRest 126 (ext ++ x) = .ok (beDecode ext, x) := by
  simp [lenRest, List.take_left' h, List.drop_left' h, h]

theorem lenRest_127 (ext x : Bytes) (h : ext.length = 8) : lenRest 127 (ext ++ x) = .ok (beDecode ext, x) := by
  simp [lenRest, List.take_left' h, List.drop_left' h, h]

theorem lenHdr_rt (m : Bool) (len : Nat) (h : len < 2 ^ 64) (x : Bytes) :
    ∃ c1 ext, lenHdr m len = .ok (c1 :: ext) ∧
      ((c1.toNat &&& 128) != 0) = m ∧
      lenRest (c1.toNat &&& 127) (ext ++ x) = .ok (len, x) := by
  by_cases h1 : len < 126
  · obtain ⟨hm, hl⟩ := byte1_toNat m len (by omega)
    exact ⟨_, [], by rw [lenHdr, if_pos h1], hm, by rw [hl]; exact lenRest_small _ _ h1⟩
  by_cases h2 : len < 65536
  · obtain ⟨hm, hl⟩ := byte1_toNat m 126 (by omega)
    exact ⟨_, _, by rw [lenHdr, if_neg h1, if_pos h2], hm,
      by rw [hl, lenRest_126 _ _ (beEncode_length 2 len), beDecode_beEncode 2 len h2]⟩
  · obtain ⟨hm, hl⟩ := byte1_toNat m 127 (by omega)
    exact ⟨_, _, by rw [lenHdr, if_neg h1, if_neg h2, if_pos h], hm,
      by rw [hl, lenRest_127 _ _ (beEncode_length 8 len), beDecode_beEncode 8 len h]⟩

/-- Guard under which the real `build()` does not raise: 4-bit opcode, length
    below 2^64, and a 4-byte masking key when masked. -/
def Frame.WF (rnd : Bytes) (f : Frame) : Prop :=
  f.opcode < 16 ∧ f.data.length < 2 ^ 64 ∧ (f.masked = true → (f.mask.getD rnd).length = 4)

/-- What `parse` reports for the mask: the key used when masked, `None` otherwise. -/
def Frame.norm (rnd : Bytes) (f : Frame) : Frame :=
  { f with mask := if f.masked then some (f.mask.getD rnd) else none }

theorem byte0_fields (f : Frame) (h : f.opcode < 16) :
    byte0 f = (if f.fin then 1 else 0) * 128 + (if f.rsv1 then 1 else 0) * 64 +
      (if f.rsv2 then 1 else 0) * 32 + (if f.rsv3 then 1 else 0) * 16 + f.opcode ∧
    byte0 f ≤ 255 ∧ ((byte0 f &&& 128) != 0) = f.fin ∧ ((byte0 f &&& 64) != 0) = f.rsv1 ∧
    ((byte0 f &&& 32) != 0) = f.rsv2 ∧ ((byte0 f &&& 16) != 0) = f.rsv3 ∧ (byte0 f &&& 15) = f.opcode :=
  byte0_table f.fin f.rsv1 f.rsv2 f.rsv3 ⟨f.opcode, h⟩

theorem bodyOut_ok (rnd : Bytes) (f : Frame) (hm : f.masked = true → (f.mask.getD rnd).length = 4) :
    bodyOut rnd f =
      .ok (if f.masked then f.mask.getD rnd ++ maskAux (f.mask.getD rnd) 0 f.data else f.data) := by
  unfold bodyOut
  cases hmk : f.masked with
  | false => rfl
  | true =>
    cases hd : f.data with
    | nil => simp [maskAux]
    | cons c cs => simp [applyMask_ok _ _ (hm hmk)]

theorem finish_body (b0 : Nat) (masked : Bool) (key data tail : Bytes) (hk : masked = true → key.length = 4) :
    finish b0 masked data.length ((if masked then key ++ maskAux key 0 data else data) ++ tail) =
      .ok ({ fin := (b0 &&& 128) != 0, rsv1 := (b0 &&& 64) != 0, rsv2 := (b0 &&& 32) != 0,
             rsv3 := (b0 &&& 16) != 0, opcode := b0 &&& 15, masked := masked,
             mask := if masked then some key else none, data := data }, tail) := by
  cases masked with
  | false => simp [finish]
  | true =>
    have h4 := hk rfl
    have hl := maskAux_length key 0 data
    simp only [finish, if_true, List.append_assoc, List.take_left' h4, List.drop_left' h4,
      List.take_left' hl, List.drop_left' hl, applyMask_ok _ _ h4, maskAux_inv]

theorem build_parse (rnd : Bytes) (f : Frame) (tail : Bytes) (h : f.WF rnd) :
    ∃ raw, build rnd f = .ok raw ∧ parse (raw ++ tail) = .ok (f.norm rnd, tail) ∧
      declLen (raw ++ tail) = f.data.length := by
  obtain ⟨hop, hlen, hm⟩ := h
  obtain ⟨_, hle, h1, h2, h3, h4, h5⟩ := byte0_fields f hop
  have hbody := bodyOut_ok rnd f hm
  have hfin := finish_body (byte0 f) f.masked (f.mask.getD rnd) f.data tail hm
  generalize (if f.masked then _ else _ : Bytes) = body at hbody hfin
  obtain ⟨c1, ext, hhdr, hmask, hrest⟩ := lenHdr_rt f.masked f.data.length hlen (body ++ tail)
  refine ⟨UInt8.ofNat (byte0 f) :: c1 :: (ext ++ body), ?_, ?_, ?_⟩
  · rw [build, if_neg (by omega), hhdr, hbody]; rfl
  · simp only [List.cons_append, List.append_assoc, parse, hrest, hmask,
      UInt8.toNat_ofNat_of_lt' (Nat.lt_succ_of_le hle), hfin, h1, h2, h3, h4, h5]
    rfl
  · simp only [List.cons_append, List.append_assoc, declLen, hrest]

/-- The right side is the length field as `rfcEncode` writes it. -/
theorem lenHdr_eq_rfc (m : Bool) (n : Nat) (h : n < 2 ^ 64) :
    lenHdr m n = .ok (
      if n ≤ 125 then [UInt8.ofNat ((if m then 128 else 0) + n)]
      else if n ≤ 65535 then [UInt8.ofNat ((if m then 128 else 0) + 126), UInt8.ofNat (n / 256), UInt8.ofNat (n % 256)]
      else UInt8.ofNat ((if m then 128 else 0) + 127) ::
        (List.range 8).map (fun i => UInt8.ofNat (n / 256 ^ (7 - i) % 256))) := by
  unfold lenHdr
  by_cases h1 : n < 126
  · rw [if_pos h1, if_pos (by omega), (byte1_table m ⟨n, by omega⟩).1]
  by_cases h2 : n < 65536
  · rw [if_neg h1, if_pos h2, if_neg (by omega), if_pos (by omega), (byte1_table m ⟨126, by omega⟩).1]
    simp only [beEncode, Nat.pow_one, Nat.pow_zero, Nat.div_one, Nat.mod_eq_of_lt (show n / 256 < 256 by omega)]
  · rw [if_neg h1, if_neg h2, if_pos h, if_neg (by omega), if_neg (by omega), (byte1_table m ⟨127, by omega⟩).1]
    -- `beEncode 8 n` and the map over `List.range 8` unroll to the same eight bytes
    rfl

theorem build_eq_rfcEncode (rnd : Bytes) (f : Frame) (h : f.WF rnd) :
    build rnd f = .ok (rfcEncode f (f.mask.getD rnd)) := by
  obtain ⟨hb0, hle, _⟩ := byte0_fields f h.1
  rw [build, if_neg (by omega), lenHdr_eq_rfc _ _ h.2.1, bodyOut_ok rnd f h.2.2, rfcEncode, ← hb0]
  simp only [maskAux_zipIdx]

end Px.Ws

import PxProofs.ParserLoop
/-!
# A parsed plain request always has a connectable port (for C04)

`PortOk p`: once the request line has been read (`url` set) and the request is
not a CONNECT, `port` is set and non-zero (`_set_line_attributes`: the URL's
port, or the default HTTP port when absent or `0`).  Holds for the fresh parser
and is kept by `HttpParser.parse` on every input: the request line is the only
writer of `url` / `port` / `_is_https_tunnel` (`stepOnce_frame`).
-/
namespace Px.Persist
open Px Px.Parser

def PortOk (p : Parser) : Prop :=
  p.url.isSome = true → p.isTunnel = false → ∃ v, p.port = some v ∧ v ≠ 0

theorem portOk_init (ty : PType) : PortOk (init ty) := by
  intro h; simp [init] at h

theorem portOk_of_frame {p q : Parser} (h : Frame p q) (hp : PortOk p) : PortOk q := by
  obtain ⟨_, _, _, _, _, _, rfl⟩ := h; exact hp

theorem setLineAttributes_portOk (cfg : Cfg) (hd : cfg.defaultHttpPort ≠ 0) (p : Parser) (u : Px.Url.Url) :
    PortOk (setLineAttributes cfg p u) := by
  unfold setLineAttributes
  split
  · rename_i ht
    exact fun _ h => by simp [ht] at h
  · intro _ _
    have hne : (Int.ofNat cfg.defaultHttpPort) ≠ 0 := by
      intro h; exact hd (Int.ofNat_eq_zero.mp h)
    cases hu : u.port with
    | none => exact ⟨_, rfl, hne⟩
    | some v =>
      by_cases hv : (v != 0) = true
      · exact ⟨v, by simp [hv], by simpa using hv⟩
      · exact ⟨_, by simp [hv], hne⟩

theorem lineStep_portOk {cfg : Cfg} (hd : cfg.defaultHttpPort ≠ 0) {p q : Parser} {line : Bytes}
    (h : lineStep cfg p line = .ok q) (hp : PortOk p) : PortOk q := by
  rcases lineStep_cases h with ⟨_, _, _, _, rfl⟩ | ⟨_, _, _, rfl⟩
  · exact setLineAttributes_portOk cfg hd _ _
  · exact hp

theorem parse_portOk {cfg : Cfg} (hd : cfg.defaultHttpPort ≠ 0) {p q : Parser} {x : Bytes}
    (h : parse cfg p x = .ok q) (hp : PortOk p) : PortOk q :=
  parse_preserves cfg (fun _ _ _ hi => hi)
    (fun hi _ hs => by
      rcases stepOnce_frame cfg hs with hf | ⟨_, q1, hl, hf⟩
      · exact portOk_of_frame hf hi
      · exact portOk_of_frame hf (lineStep_portOk hd hl hi))
    hp h

end Px.Persist

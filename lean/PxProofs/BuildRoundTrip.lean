import PxProofs.BuildParse
/-!
# The builders' output read back by the parser, part 3: framing cases and the builders (C15)

`Framing` : the three ways a header list can announce its payload; `parse_framed` : what `parse` returns for a
rendered packet in one of them, for any start line.  The builders are `start-line CRLF header-block CRLF payload`
with the header lists `reqHeaders` / `resHeaders`.
-/
namespace Px.Codec

open Px.Parser Px.Build
open Px.Url (Url)

/-- the start-line fields of `r` are those of `p` -/
structure LineEq (p r : Parser) : Prop where
  ty_eq : r.ty = p.ty
  method_eq : r.method = p.method
  version_eq : r.version = p.version
  code_eq : r.code = p.code
  reason_eq : r.reason = p.reason
  url_eq : r.url = p.url
  host_eq : r.host = p.host
  port_eq : r.port = p.port
  path_eq : r.path = p.path
  isTunnel_eq : r.isTunnel = p.isTunnel
  totalSize_eq : r.totalSize = p.totalSize

/-- the parser's header map for a received header list -/
def hdrsOf (H : HDict) : Option Headers := if H = [] then none else some (hdrFold [] H)

/-- a parser that has read a start line and nothing else -/
def FreshLine (p1 : Parser) : Prop :=
  p1.contentExpected = false ∧ p1.isChunked = false ∧ p1.headers = none ∧ p1.body = none ∧ p1.chunk = none

/-- The three ways a header list `H` announces the payload after the blank line, as the parser reads them.
    Indices: the payload, then the body and the chunked flag the parser reports. -/
inductive Framing (H : HDict) : Bytes → Option Bytes → Bool → Prop
  | nobody (hte : H.any isTEChunked = false) (hcl : ∀ e ∈ H, isCL e = true → pyInt 10 e.2 = some 0) :
      Framing H [] none false
  | cl {body : Bytes} (hte : H.any isTEChunked = false)
      (hcl : ∀ e ∈ H, isCL e = true → pyInt 10 e.2 = some (Int.ofNat body.length))
      (hex : ∃ e ∈ H, isCL e = true) (hne : body ≠ []) : Framing H body (some body) false
  | chunked {s : Px.Chunk.ChunkedStream} (hte : H.any isTEChunked = true) (hcl : clValuesOK H) (hs : s.Valid) :
      Framing H s.render (some s.decoded) true

/-- what `parse` returns for a whole message whose start line leaves the parser at `p1`, whose header list is `H`
    and whose payload announces `body` -/
structure FramedResult (p1 r : Parser) (H : HDict) (body : Option Bytes) (ch : Bool) : Prop where
  state_eq : r.state = .complete
  line : LineEq p1 r
  headers_eq : r.headers = hdrsOf H
  body_eq : r.body = body
  buffer_eq : r.buffer = none
  chunked_eq : r.isChunked = ch

theorem Framing.clValuesOK {H : HDict} {B : Bytes} {body : Option Bytes} {ch : Bool} (fr : Framing H B body ch) :
    clValuesOK H := by
  cases fr with
  | nobody _ hcl => exact fun e he hc => ⟨_, hcl e he hc⟩
  | cl _ hcl => exact fun e he hc => ⟨_, hcl e he hc⟩
  | chunked _ hcl => exact hcl

theorem parse_framed {cfg : Cfg} {ty : PType} {p1 : Parser} {H : HDict} {B pkt : Bytes} {body : Option Bytes} {ch : Bool}
    (hparse : parse cfg (init ty) pkt = match foldHdrs p1 H with
      | .error e => .error e
      | .ok q => bodyPhase cfg (pkt.length + 6) q B)
    (hp1 : FreshLine p1) (fr : Framing H B body ch) :
    ∃ r, parse cfg (init ty) pkt = .ok r ∧ FramedResult p1 r H body ch := by
  obtain ⟨hce, hch, hh, hb, hck⟩ := hp1
  obtain ⟨q, hq⟩ := foldHdrs_ok H fr.clValuesOK p1
  obtain ⟨ce, rfl, hceq⟩ := foldHdrs_eq H hq
  have hhd : (if H = [] then p1.headers else some (hdrFold (p1.headers.getD []) H)) = hdrsOf H := by rw [hh]; rfl
  rw [hparse, hq]
  simp only
  cases fr with
  | nobody hte hcl =>
    have hce0 : ce = false := by rw [hceq 0 hcl, hce]; split <;> rfl
    have hch0 : (p1.isChunked || H.any isTEChunked) = false := by rw [hch, hte]; rfl
    exact ⟨_, bodyPhase_nobody cfg _ _ [] hce0 hch0 (.inl rfl), rfl, by constructor <;> rfl, hhd, hb, rfl, hch0⟩
  | cl hte hcl hex hne =>
    have hce1 : ce = true := by
      rw [hceq _ hcl, if_pos (List.any_eq_true.2 hex), decide_eq_true_eq]
      exact Int.natCast_pos.2 (List.length_pos_iff.2 hne)
    have hch0 : (p1.isChunked || H.any isTEChunked) = false := by rw [hch, hte]; rfl
    obtain ⟨e0, he0, hc0⟩ := hex
    -- the value the parser looks up is that of the last content-length header
    obtain ⟨e, he, hec, hget⟩ := (hdrGet_hdrFold_cl H []).resolve_left
      (fun h => by rw [h.1 e0 he0] at hc0; cases hc0)
    rw [← List.append_nil B]
    refine ⟨_, bodyPhase_cl cfg (pkt.length + 4) _ B [] e.2 hch0 hce1 hb ?_ (hcl e he hec) hne, rfl, by constructor <;> rfl, hhd,
      congrArg some (List.append_nil B).symm, rfl, hch0⟩
    simp only [header, bn_content_length, lower_kCL, if_neg (List.ne_nil_of_mem he0), hh, Option.getD_none, hget]
  | @chunked s hte hcl hs =>
    have hch1 : (p1.isChunked || H.any isTEChunked) = true := by rw [hte, Bool.or_true]
    rw [← List.append_nil s.render]
    exact ⟨_, bodyPhase_chunked cfg (pkt.length + 4) _ s [] hch1 hck hs, rfl, by constructor <;> rfl, hhd, rfl, rfl, hch1⟩

/-- `build_http_pkt`'s `Connection: close` -/
def pktHeaders (H : HDict) (cc : Bool) : HDict := if cc then dSet H nConn vClose else H

theorem buildPkt_eq (line : List Bytes) (H : HDict) (body : Option Bytes) (cc : Bool) :
    buildPkt line H body cc =
      join [SP] line ++ CRLF ++ (renderHdrs (pktHeaders H cc) ++ CRLF ++ body.getD []) := by
  unfold buildPkt pktHeaders renderHdrs
  rw [bn_Connection, bn_close]
  cases body <;> simp [List.append_assoc]

theorem join_three (m u v : Bytes) : join [SP] [m, u, v] = m ++ SP :: (u ++ SP :: v) := by simp [join]
theorem join_two (v c : Bytes) : join [SP] [v, c] = v ++ SP :: c := by simp [join]

/-- `self.path or b'/'` -/
def pathOf (p : Parser) : Bytes :=
  match p.path with
  | some x => if x.isEmpty then [SLASH] else x
  | none => [SLASH]

/-- Python truthiness of an optional bytes body -/
def bodyTruthy (body : Option Bytes) : Bool := match body with | some x => !x.isEmpty | none => false

theorem bodyTruthy_getD {body : Option Bytes} (h : bodyTruthy body = true) :
    body.getD [] ≠ [] ∧ body = some (body.getD []) := by
  rcases body with _ | _ | ⟨a, t⟩
  · cases h
  · cases h
  · exact ⟨List.cons_ne_nil a t, rfl⟩

theorem bodyTruthy_false_getD {body : Option Bytes} (h : bodyTruthy body = false) : body.getD [] = [] := by
  rcases body with _ | _ | ⟨a, t⟩
  · rfl
  · rfl
  · cases h

def hasKey (k : Bytes) (hs : HDict) : Bool := hs.any (fun e => lower e.1 == k)

/-- the stages of `build_http_request`: `reqH1` `Content-Type`, `reqH2` `Content-Length`, `reqH3` `User-Agent` -/
def reqH1 (ct : Option Bytes) (hs : HDict) : HDict :=
  match ct with | some c => dSet hs nCT c | none => hs

def reqH2 (ct : Option Bytes) (hs : HDict) (body : Option Bytes) : HDict :=
  if bodyTruthy body && !hasKey kTE (reqH1 ct hs) then
    dSet (reqH1 ct hs) nCL (natToDec (body.getD []).length)
  else reqH1 ct hs

def reqH3 (ua : Bytes) (ct : Option Bytes) (hs : HDict) (body : Option Bytes) (noUa : Bool) : HDict :=
  if !hasKey kUA (reqH1 ct hs) && !noUa then dSet (reqH2 ct hs body) nUA ua else reqH2 ct hs body

/-- the header list `build_http_request` sends, in order (stage 4: `Connection: close`) -/
def reqHeaders (ua : Bytes) (ct : Option Bytes) (hs : HDict) (body : Option Bytes) (cc noUa : Bool) : HDict :=
  pktHeaders (reqH3 ua ct hs body noUa) cc

theorem buildRequest_eq (ua m u v : Bytes) (ct : Option Bytes) (hs : HDict) (body : Option Bytes)
    (cc noUa : Bool) :
    buildRequest ua m u v ct hs body cc noUa =
      m ++ SP :: (u ++ SP :: v) ++ CRLF ++ (renderHdrs (reqHeaders ua ct hs body cc noUa) ++ CRLF ++ body.getD []) := by
  unfold buildRequest
  rw [buildPkt_eq, join_three, bn_Content_Type, bn_Content_Length, bn_User_Agent, bn_transfer_encoding,
    bn_user_agent]
  rfl

/-- the header list `build_http_response` sends, in order -/
def resHeaders (hs : HDict) (body : Option Bytes) (cc noCl : Bool) : HDict :=
  let h1 := if !hasKey kTE hs && !noCl then
      dSet hs nCL (if bodyTruthy body then natToDec (body.getD []).length else [48])
    else hs
  pktHeaders h1 cc

theorem buildResponse_eq (status : Int) (version : Bytes) (reason : Option Bytes) (hs : HDict)
    (body : Option Bytes) (cc noCl : Bool) :
    buildResponse status version reason hs body cc noCl =
      statusLine status version reason ++ CRLF ++
        (renderHdrs (resHeaders hs body cc noCl) ++ CRLF ++ body.getD []) := by
  unfold buildResponse
  rw [buildPkt_eq, bn_Content_Length, bn_transfer_encoding, b_0]
  cases reason with
  | none => simp only [statusLine, List.append_nil, join_two]; rfl
  | some r =>
    by_cases hr : r.isEmpty = true
    · simp only [statusLine, hr, if_true, List.append_nil, join_two]; rfl
    · simp only [statusLine, hr, if_false, Bool.false_eq_true]
      show join [SP] [version, intToDec status, r] ++ CRLF ++ _ = _
      rw [join_three]; rfl

theorem mem_pktHeaders {H : HDict} {cc : Bool} {e : Bytes × Bytes} (he : e ∈ pktHeaders H cc) :
    e ∈ H ∨ e = (nConn, vClose) :=
  (mem_ite_dSet he).imp_right (·.2)

theorem mem_reqH1 {ct : Option Bytes} {hs : HDict} {e : Bytes × Bytes} (he : e ∈ reqH1 ct hs) :
    e ∈ hs ∨ (∃ c, ct = some c ∧ e = (nCT, c)) := by
  unfold reqH1 at he
  cases ct with
  | none => exact .inl he
  | some c =>
    rcases mem_dSet he with h | h
    · exact .inr ⟨c, rfl, h⟩
    · exact .inl h.1

theorem mem_reqH2 {ct : Option Bytes} {hs : HDict} {body : Option Bytes} {e : Bytes × Bytes}
    (he : e ∈ reqH2 ct hs body) :
    e ∈ reqH1 ct hs ∨ (bodyTruthy body = true ∧ hasKey kTE (reqH1 ct hs) = false ∧
      e = (nCL, natToDec (body.getD []).length)) :=
  (mem_ite_dSet he).imp_right fun ⟨hc, h⟩ =>
    ⟨(Bool.and_eq_true_iff.1 hc).1, (Bool.not_eq_true' _).mp (Bool.and_eq_true_iff.1 hc).2, h⟩

theorem mem_reqH3 {ua : Bytes} {ct : Option Bytes} {hs : HDict} {body : Option Bytes} {noUa : Bool}
    {e : Bytes × Bytes} (he : e ∈ reqH3 ua ct hs body noUa) :
    e ∈ reqH2 ct hs body ∨ (noUa = false ∧ hasKey kUA (reqH1 ct hs) = false ∧ e = (nUA, ua)) :=
  (mem_ite_dSet he).imp_right fun ⟨hc, h⟩ =>
    ⟨(Bool.not_eq_true' _).mp (Bool.and_eq_true_iff.1 hc).2, (Bool.not_eq_true' _).mp (Bool.and_eq_true_iff.1 hc).1, h⟩

theorem mem_reqHeaders {ua : Bytes} {ct : Option Bytes} {hs : HDict} {body : Option Bytes} {cc noUa : Bool}
    {e : Bytes × Bytes} (he : e ∈ reqHeaders ua ct hs body cc noUa) :
    e ∈ hs ∨ (∃ c, ct = some c ∧ e = (nCT, c)) ∨
      (bodyTruthy body = true ∧ hasKey kTE (reqH1 ct hs) = false ∧ e = (nCL, natToDec (body.getD []).length)) ∨
      e = (nUA, ua) ∨ e = (nConn, vClose) := by
  unfold reqHeaders at he
  rcases mem_pktHeaders he with he | he
  · rcases mem_reqH3 he with he | he
    · rcases mem_reqH2 he with he | he
      · rcases mem_reqH1 he with he | he
        · exact .inl he
        · exact .inr (.inl he)
      · exact .inr (.inr (.inl he))
    · exact .inr (.inr (.inr (.inl he.2.2)))
  · exact .inr (.inr (.inr (.inr he)))

theorem mem_resHeaders {hs : HDict} {body : Option Bytes} {cc noCl : Bool} {e : Bytes × Bytes}
    (he : e ∈ resHeaders hs body cc noCl) :
    e ∈ hs ∨ (noCl = false ∧ hasKey kTE hs = false ∧
        e = (nCL, if bodyTruthy body then natToDec (body.getD []).length else [48])) ∨
      e = (nConn, vClose) := by
  rcases mem_pktHeaders he with he | he
  · exact (mem_ite_dSet he).imp_right fun ⟨hc, h⟩ =>
      .inl ⟨(Bool.not_eq_true' _).mp (Bool.and_eq_true_iff.1 hc).2, (Bool.not_eq_true' _).mp (Bool.and_eq_true_iff.1 hc).1, h⟩
  · exact .inr (.inr he)

end Px.Codec

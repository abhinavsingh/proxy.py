import PxModel.Exec
import PxProofs.ExecLemmas
import PxProofs.C05
import PxProofs.ExecRemoteLemmas
/-!
# C10 — every connection's resources are released exactly once, however it ends

Same model and correspondence as C05.  "Released" is about the executor's bookkeeping
(`works`, `registered_events_by_work_ids`, the selector map) and the kernel
descriptor table; which descriptors a work's `shutdown()` closes is the
environment's (`Shutdown.closes`) — for the real `HttpProtocolHandler` in every
role and for every abort point that is what `harness/c10.py` observes on the
implementation (every socket created for the connection is closed).
-/
namespace Px.Exec
open Px.Sel

/-- **C10 release (the cleanup itself).**  After `_cleanup(w)` — whatever
called it, whether or not `shutdown()` raised (by omission: nothing in the model
reads `Shutdown.raises`), whether or not some of `w`'s
descriptors had already left the selector — `w` is in neither `works` nor the
registry, no selector key carries `data = w`, and every descriptor the
environment says `shutdown()` closes is closed and gone from the epoll set. -/
theorem C10_release (x y : Exec) (w : WorkId) (sd : Shutdown) (hi : Inv x) (h : cleanup x w sd = .ok y) :
    Released y w ∧ ∀ fd ∈ sd.closes, (cell y.sk fd).isOpen = false ∧ (cell y.sk fd).interest = none := by
  have hs := cleanup_spec h
  constructor
  · apply released_of_not_mem y (cleanup_inv hi h)
    rw [hs.works]; simp [List.mem_filter]
  · intro fd hfd
    rw [hs.cells]
    simp [cleanC, hfd, closedCell]

/-- the bookkeeping never contains anything of a work that is over -/
theorem C10_no_residue {x : Exec} (h : Reach x) (w : WorkId) (hw : w ∉ x.works) : Released x w :=
  released_of_not_mem x (C05_reach_inv h) w hw

/-- **C10 release, every cause.**  After the round in which a work ends —
(1) its task returned `True` or raised, (2) `get_events()` raised,
(3) refreshing its selector events failed in any other way (`failed_work_ids`),
(4) its `initialize()` raised — the work is released. -/
theorem C10_release_round (x : Exec) (env : RoundEnv) (hi : Inv x) (ha : ArriveOk x env) :
    ∃ y log, runOnce x env = .ok (y, log) ∧
      (∀ w ∈ log.tasks.map (·.1), (env.beh w).task ≠ .fls → Released y w) ∧
      (∀ w ∈ x.works, (env.beh w).events = .exc → (∀ a, env.arrive = some a → a.fd ≠ w) → Released y w) ∧
      (∀ w ∈ log.failed, (∀ a, env.arrive = some a → a.fd ≠ w) → Released y w) ∧
      (∀ a, env.arrive = some a → a.initRaises = true → Released y a.fd) := by
  obtain ⟨y, log, hr, hf⟩ := runOnce_facts x env hi ha
  have hfail : ∀ w ∈ log.failed, (∀ a, env.arrive = some a → a.fd ≠ w) → Released y w := fun w hw hna =>
    released_of_not_mem y hf.inv w (hf.not_mem_of_not_kept (fun _ => hw) (fun a ha _ => hna a ha))
  refine ⟨y, log, hr, ?_, ?_, hfail, ?_⟩
  · intro w hw ht
    exact released_of_not_mem y hf.inv w (hf.not_mem_of_teardown hw (by simpa [teardown] using ht))
  · intro w hw he
    exact hfail w (hf.failed_eq ▸ updAll_failed_exc env x.works x w hw he)
  · intro a ha1 hr1
    refine released_of_not_mem y hf.inv _ (hf.not_mem_of_not_kept (fun h => absurd h ((ha a ha1).2 hr1)) ?_)
    intro a' ha' hr' _
    cases ha1.symm.trans ha'
    cases hr1.symm.trans hr'

/-- **C10 reaper.**  `_cleanup_inactive` removes exactly the works whose
`is_inactive()` is true, through the same `_cleanup`, and releases each of them. -/
theorem C10_reap (x : Exec) (inactive : WorkId → Bool) (sd : WorkId → Shutdown) (hi : Inv x) :
    ∃ y, reap x inactive sd = .ok y ∧ y.works = x.works.filter (fun v => !inactive v) ∧
      ∀ w, inactive w = true → Released y w := by
  obtain ⟨y, hr, hiy, hw⟩ := reap_ok x inactive sd hi
  refine ⟨y, hr, hw, ?_⟩
  intro w hin
  apply released_of_not_mem y hiy
  rw [hw]
  simp [List.mem_filter, hin]

/-- **C10 return to start.**  In every reachable state — after ANY history of connections, in
any number, sequential or concurrent, each ending in any way — in which no connection is alive
any more, `works`, the registry and the selector map are empty, as before the first connection was
accepted.  Hence repeating any history cannot grow the bookkeeping (with other connections alive,
`C10_no_residue` says nothing of the finished ones remains and `C05_noninterference` that the live
ones are unaffected). -/
theorem C10_return_to_start {x : Exec} (h : Reach x) (hw : x.works = []) :
    x.registered = [] ∧ x.sk.map = [] := by
  have hi := C05_reach_inv h
  have hreg : ∀ w, aget x.registered w = none := by
    intro w
    cases hr : aget x.registered w with
    | none => rfl
    | some r => have := hi.regWorks w (by rw [hr]; simp); rw [hw] at this; cases this
  refine ⟨eq_nil_of_aget_none _ hreg, eq_nil_of_aget_none _ ?_⟩
  intro fd
  cases hk : aget x.sk.map fd with
  | none => rfl
  | some q =>
    obtain ⟨m, d⟩ := q
    have := hi.mapReg fd m d (by simp [cell, hk])
    simp [regOf, hreg d] at this

/-- the footprint of one connection is the same (empty) before it is accepted and after it is
    cleaned up, whatever happened in between and whatever the other connections do -/
theorem C10_footprint_before_after {x y : Exec} (hx : Reach x) (hy : Reach y) (f : WorkId)
    (hbefore : f ∉ x.works) (hafter : f ∉ y.works) : Released x f ∧ Released y f :=
  ⟨C10_no_residue hx f hbefore, C10_no_residue hy f hafter⟩

theorem lowestFree_lowest (open_ : List Fd) : ∀ (fuel n m : Nat), n ≤ m → m < lowestFree open_ fuel n → ((m : Nat) : Int) ∈ open_ := by
  intro fuel
  induction fuel with
  | zero => intro n m h1 h2; simp [lowestFree] at h2; omega
  | succ f ih =>
    intro n m h1 h2
    unfold lowestFree at h2
    by_cases hn : ((n : Nat) : Int) ∈ open_
    · simp only [hn, if_true] at h2
      by_cases e : m = n
      · subst e; exact hn
      · exact ih (n + 1) m (by omega) h2
    · simp only [hn, if_false] at h2; omega

theorem lowestFree_free_or_exhausted (open_ : List Fd) : ∀ (fuel n : Nat),
    ((lowestFree open_ fuel n : Nat) : Int) ∉ open_ ∨ lowestFree open_ fuel n = n + fuel := by
  intro fuel
  induction fuel with
  | zero => intro n; right; simp [lowestFree]
  | succ f ih =>
    intro n
    unfold lowestFree
    by_cases hn : ((n : Nat) : Int) ∈ open_
    · simp only [hn, if_true]
      rcases ih (n + 1) with h | h
      · exact Or.inl h
      · right; omega
    · left; simp [hn]

theorem pigeon : ∀ (k : Nat) (l : List Int), (∀ m : Nat, m < k → ((m : Nat) : Int) ∈ l) → k ≤ l.length := by
  intro k
  induction k with
  | zero => intro l _; omega
  | succ k ih =>
    intro l h
    have hk : ((k : Nat) : Int) ∈ l := h k (by omega)
    have := ih (l.erase (k : Int)) (by
      intro m hm
      have hne : ((m : Nat) : Int) ≠ ((k : Nat) : Int) := by omega
      exact (List.mem_erase_of_ne hne).2 (h m (by omega)))
    rw [List.length_erase_of_mem hk] at this
    have hpos : 0 < l.length := List.length_pos_of_mem hk
    omega

/-- the kernel model's allocation is lowest-free (this is why a closed descriptor's number comes back,
    the D12 family of scenarios) -/
theorem C10_alloc_lowest_free (k : Kernel) :
    k.alloc ∉ k.open_ ∧ ∀ m : Nat, (m : Int) < k.alloc → (m : Int) ∈ k.open_ := by
  unfold Kernel.alloc
  constructor
  · rcases lowestFree_free_or_exhausted k.open_ k.open_.length 0 with h | h
    · exact h
    · intro hin
      have hall : ∀ m : Nat, m < k.open_.length + 1 → ((m : Nat) : Int) ∈ k.open_ := by
        intro m hm
        by_cases e : m < lowestFree k.open_ k.open_.length 0
        · exact lowestFree_lowest k.open_ _ 0 m (by omega) e
        · have : m = lowestFree k.open_ k.open_.length 0 := by omega
          rw [this]; exact hin
      have := pigeon (k.open_.length + 1) k.open_ hall
      omega
  · intro m hm
    exact lowestFree_lowest k.open_ k.open_.length 0 m (by omega) (by omega)

/-- non-vacuity: a connection is accepted, registers two descriptors, and its task asks for teardown -/
example : ∃ y log, runOnce (fresh ⟨[5, 6], []⟩)
      { beh := fun _ => ⟨.ok [(5, 1)], .tru, [], ⟨[5], true⟩⟩, ready := [], arrive := some ⟨5, false⟩, prio := [] }
      = .ok (y, log) ∧ y.works = [5] := ⟨_, _, rfl, rfl⟩

/-! ## Remote executors: the raw descriptor received from the acceptor

A remote worker owns the raw descriptor `recv_handle` gave it and must
`os.close()` it exactly once, whichever way the work ends — including a work
whose `initialize()` raised.  (`PxModel/ExecRemote.lean`; tied to the real
`RemoteFdExecutor` by the `remote` cases of `harness/c10.py`.) -/

/-- **C10 remote release.**  A successful `_cleanup` gives up the work's raw
descriptor — it is no longer owned afterwards, every other owned descriptor
stays owned — and keeps "owned raw descriptors = ids of live works, each once".
This is ownership bookkeeping: `cleanupR` models the `os.close()` by erasing `w`
from `raw`, the kernel's descriptor table is not touched. -/
theorem C10_remote_release (x y : RExec) (w : WorkId) (sd : Shutdown) (hi : RInv x)
    (h : cleanupR x w sd = .ok y) : w ∉ y.raw ∧ y.raw = x.raw.erase w ∧ RInv y :=
  let r := cleanupR_inv x y w sd hi h; ⟨r.2.1, r.2.2, r.1⟩

/-- **C10 remote, failing `initialize()`.**  A connection whose `initialize()`
raises leaves the set of owned raw descriptors exactly as it was before the
connection arrived: its descriptor was closed on the spot. -/
theorem C10_remote_init_failure (x y : RExec) (a : Arrive) (sd : Shutdown) (hi : RInv x)
    (hnew : a.fd ∉ x.ex.works) (hr : a.initRaises = true) (h : acceptR x a sd = .ok y) :
    y.raw = x.raw ∧ RInv y :=
  let r := acceptR_inv x y a sd hi hnew h; ⟨r.2.1 hr, r.1⟩

/-- **C10 remote, every history.**  After ANY sequence of arrivals (with or
without initialize failure) and clean-ups that the executor survives, the raw
descriptors still open are exactly those of the works still alive; once no
work is left, none is. -/
theorem C10_remote_no_leak (x0 : Exec) (h0 : x0.works = []) (ops : List ROp) (y : RExec)
    (hok : ROpsOk ⟨x0, []⟩ ops) (h : runR ⟨x0, []⟩ ops = .ok y) :
    (∀ f, f ∈ y.raw ↔ f ∈ y.ex.works) ∧ y.raw.Nodup ∧ (y.ex.works = [] → y.raw = []) := by
  have hi : RInv ⟨x0, []⟩ := ⟨List.nodup_nil, by intro f; simp [h0]⟩
  have hy := runR_inv ops _ y hi hok h
  refine ⟨hy.2, hy.1, ?_⟩
  intro hw
  cases hr : y.raw with
  | nil => rfl
  | cons f l =>
    have := (hy.2 f).1 (by rw [hr]; exact List.mem_cons_self)
    rw [hw] at this; cases this

/-- non-vacuity: an arrival that fails to initialize between two that do not, then one clean-up -/
example : (runR ⟨fresh ⟨[5, 6, 7], []⟩, []⟩
    [.arrive ⟨5, false⟩ ⟨[], false⟩, .arrive ⟨6, true⟩ ⟨[6], true⟩, .arrive ⟨7, false⟩ ⟨[], false⟩,
     .clean 5 ⟨[5], false⟩]).toOption.map (·.raw) = some [7] := by
  decide +kernel

end Px.Exec

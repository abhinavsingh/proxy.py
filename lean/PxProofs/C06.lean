import PxModel.FirstRequest
import PxModel.WfResponse
import PxModel.Responses
import PxProofs.FirstLemmas
import PxProofs.WfBuild
import PxProofs.ParseFuel
/-!
# C06 — any input yields service, a well-formed error response, or a clean close

The models (`PxModel/FirstRequest.lean`, `Responses.lean`, `Build.lean`, `Parser.lean`) are
tied to proxy/http/handler.py, responses.py, common/utils.py, parser/parser.py by
`harness/c06.py`; `PxModel/WfResponse.lean` is the RFC 7230 specification side.
-/
namespace Px.First

/-- **C06 total (one segment).**  For every handler state still in its first-request phase,
every plugin configuration and plugin behaviour, and every byte string `data`, `handle_data`
ends in exactly one row of the decision table `Spec`: `wait`, `served`, `reject` — teardown, the
handler itself having queued exactly `[BAD_REQUEST_RESPONSE_PKT]` (parse error of any kind /
unknown protocol / no plugin) or the raising plugin exception's `response()` (one packet or
nothing) — or `escaped`, only if a plugin hook lets a non-`HttpProtocolException` escape
(excluded by `NoCrash`).

`reqParse` is `request.parse` for both values of `--enable-proxy-protocol`
(`cfg.proxyProtocol`): with the flag on the first CRLF-terminated line goes to
`ProxyProtocol.parse` (`Px.PP.parseLine`), and every way that can fail (AssertionError,
IndexError, ValueError, NotImplementedError, HttpProtocolException) is a `reject (.parse e)` row. -/
theorem C06_total (cfg : Cfg) (st : St) (data : Bytes) (h : st.request.state ≠ .complete) :
    Spec cfg st data (handleData cfg st data) := by
  rw [handleData_first cfg st data h]; exact parseFirst_spec cfg st data

/-- under the plugin contract the outcome is one of the three classes of the property -/
theorem C06_exclusive (cfg : Cfg) (hc : NoCrash cfg) (st : St) (data : Bytes) (h : st.request.state ≠ .complete) :
    match (handleData cfg st data).2.1 with
    | .wait => (handleData cfg st data).2.2 = false ∧ (handleData cfg st data).1.buffer = st.buffer
    | .served _ td => (handleData cfg st data).2.2 = td
    | .reject _ hq => (handleData cfg st data).2.2 = true ∧
        (hq = [cfg.badRequest] ∨ hq = [] ∨ ∃ r, hq = [r] ∧ r ≠ [])
    | _ => False := by
  have hs := C06_total cfg st data h
  generalize handleData cfg st data = res at hs
  obtain ⟨st', o, ret⟩ := res
  cases o with
  | wait => exact ⟨hs.2.1, hs.2.2.1⟩
  | served pid td =>
    obtain ⟨_, _, _, _, _, _, _, _, hret, _⟩ := hs
    exact hret
  | reject why hq =>
    refine ⟨hs.1, ?_⟩
    cases why with
    | pluginRaised pid =>
      obtain ⟨_, _, resp, _, _, _, rfl, _⟩ := hs.2.2
      cases resp with
      | none => exact Or.inr (Or.inl rfl)
      | some r =>
        cases r with
        | nil => exact Or.inr (Or.inl rfl)
        | cons c t => exact Or.inr (Or.inr ⟨c :: t, rfl, List.cons_ne_nil c t⟩)
    | _ => exact Or.inl hs.2.2.2.1
  | escaped pid =>
    obtain ⟨rq, q, _, _, hcr⟩ := hs
    rcases hcr with ⟨hcr, _⟩ | ⟨q1, rem, _, _, hcr, _⟩
    · exact hc.1 pid rq q hcr
    · exact hc.2 pid _ rem q hcr
  | data _ => exact hs
  | ignored => exact hs

/-- **C06 trace.**  Every sequence of client segments fed to a fresh handler is answered in the
shape `FirstShape`: `wait`s, then at most one `served` or `reject`, and nothing is read after a
teardown. -/
theorem C06_trace (cfg : Cfg) (segs : List Bytes) : FirstShape (run cfg {} segs).2 :=
  run_firstShape cfg segs {} (by decide) (by decide)

/-- **C06: a rejected connection is not read any more.**  When `handle_data` returns True the
tick either sets must-flush (output pending: read interest is dropped, C07 closes once
drained) or reports teardown; from then on no client byte reaches the parser: the state
(including the parser's `total_size`) never changes again, whatever the client sends. -/
theorem C06_reject_stops_reading (cfg : Cfg) (st : St) (data : Bytes) (more : List Bytes)
    (h : (handleData cfg st data).2.2 = true) :
    let st' := (tick cfg st data).1
    reading st' = false ∧ (st'.escaped = false → (st'.mustFlush = true ∧ st'.buffer ≠ []) ∨ st'.teardown = true) ∧
      run cfg st' more = (st', more.map (fun _ => none)) := by
  have hs := tick_stops cfg st data (Or.inl h)
  refine ⟨hs, ?_, run_not_reading cfg _ more hs⟩
  rw [tick_eq]
  simp only [h, if_true]
  intro hesc
  by_cases he : (handleData cfg st data).1.escaped = true
  · simp [he] at hesc
  · simp only [he, Bool.false_eq_true, if_false]
    by_cases hb : (handleData cfg st data).1.buffer.isEmpty = true
    · simp [hb]
    · left
      simp only [hb, Bool.not_false, if_true, true_and]
      intro h0; rw [h0] at hb; exact hb rfl

/-- a plugin hook that breaks the contract (`on_request_complete`, or `on_client_data` on the
leftover of the segment): the exception leaves `handle_data` (the executor tears the work down,
C05); the handler itself queues nothing -/
theorem C06_crash_escapes (cfg : Cfg) (st : St) (data : Bytes) (h : st.request.state ≠ .complete)
    (pid : Nat) (hp : (handleData cfg st data).2.1 = .escaped pid) :
    (∃ rq q, (cfg.onComplete pid rq = .crash q ∧ (handleData cfg st data).1.buffer = st.buffer ++ q) ∨
        (∃ q1 rem, cfg.onComplete pid rq = .ret q1 false ∧ cfg.onClientData pid st.calls rem = .crash q ∧
          (handleData cfg st data).1.buffer = st.buffer ++ q1 ++ q)) ∧
      reading (tick cfg st data).1 = false := by
  have hs := C06_total cfg st data h
  have hstop : (handleData cfg st data).1.escaped = true → reading (tick cfg st data).1 = false :=
    fun he => tick_stops cfg st data (Or.inr he)
  generalize handleData cfg st data = res at hs hp hstop
  obtain ⟨st', o, ret⟩ := res
  simp only at hp
  subst hp
  obtain ⟨rq, q, _, he, hcr⟩ := hs
  refine ⟨⟨rq, q, ?_⟩, hstop he⟩
  rcases hcr with ⟨hcr, hb⟩ | ⟨q1, rem, h1, _, h2, hb⟩
  · exact Or.inl ⟨hcr, hb⟩
  · exact Or.inr ⟨q1, rem, h1, h2, hb⟩

/-- **C06: an empty method is rejected (1e14ff2).**  A first segment whose first line starts
with a space — i.e. a request line with an empty method, such as ` http://h/ HTTP/1.1` — is a
parse error for every configuration without a pending PROXY line: exactly the canned 400 is
queued and teardown requested; no plugin is selected and no upstream connection is made. -/
theorem C06_empty_method_rejected (cfg : Cfg) (t line rest : Bytes) (hflag : cfg.proxyProtocol = false)
    (hcr : splitCRLF (SP :: t) = some (line, rest)) :
    handleData cfg {} (SP :: t) =
      ({ buffer := [cfg.badRequest] }, .reject (.parse (.parser .httpProtocol)) [cfg.badRequest], true) := by
  -- the line starts with the SP, so its first part, the method, is empty
  obtain ⟨tl, htl⟩ : ∃ tl, splitN1 SP 2 line = [] :: tl := by
    have he := (splitCRLF_some hcr).1
    cases line with
    | nil => cases (List.cons.inj he).1
    | cons c l =>
      cases (List.cons.inj he).1
      exact ⟨_, splitN1_succ_render SP 1 [] l (by simp)⟩
  have hstep : ∀ p : Px.Parser.Parser, p.ty = .request → p.state = .initialized →
      Px.Parser.stepOnce cfg.pcfg p (SP :: t) = .error .httpProtocol := by
    intro p hty hs
    have hl : Px.Parser.lineStep cfg.pcfg p line = .error .httpProtocol := by
      unfold Px.Parser.lineStep
      rw [hty, htl]
      rcases tl with _ | ⟨_, _ | ⟨_, _ | _⟩⟩ <;> rfl
    rw [Px.Parser.stepOnce_eq, Px.Parser.core_line _ hs, Px.Parser.processLine_eq, hcr]
    simp only [hl]
    rfl
  have hparse : Px.Parser.parse cfg.pcfg (Px.Parser.init .request) (SP :: t) = .error .httpProtocol := by
    unfold Px.Parser.parse
    simp only [Px.Parser.init, show decide ((SP :: t).length > 0) = true by simp]
    rw [show (SP :: t).length + 8 = ((SP :: t).length + 7) + 1 from rfl, Px.Parser.loop_succ _ _ (by simp),
      hstep _ rfl rfl]
  have hreq : reqParse cfg {} (SP :: t) = .error (.parser .httpProtocol) := by
    unfold reqParse Px.PP.parseWith
    have hp' := hparse
    simp only [Px.Parser.init] at hp'
    simp [hflag, hp', Px.Parser.init]
  rw [handleData_first cfg {} _ (by decide)]
  unfold parseFirst
  rw [hreq]
  rfl

/-- **C06: the web server answers a non-UTF-8 path with 400 (eb09b1e).**  Whenever the web
server plugin is the selected plugin (`webGuard`: the modelled head of
`HttpWebServerPlugin.on_request_complete`, everything behind it abstract) and the completed
request's path is not valid UTF-8, the connection ends with exactly the canned 400 queued by the
plugin, `True` returned, must-flush set and read interest dropped — for every routing / static
file behaviour `inner`. -/
theorem C06_web_bad_path_rejected (cfg : Cfg) (inner : Nat → Px.Parser.Parser → PluginRes) (webPid : Nat)
    (st : St) (data : Bytes) (rq : Px.Parser.Parser) (path : Bytes)
    (hcfg : cfg.onComplete = webGuard cfg.badRequest webPid inner) (hr : reading st = true)
    (hst : st.request.state ≠ .complete) (hp : reqParse cfg st data = .ok rq) (hc : rq.state = .complete)
    (hproto : handlerProtocol rq ≠ .unknown) (hd : discover cfg.plugins (handlerProtocol rq).num = some webPid)
    (hpath : rq.path = some path) (hne : path ≠ []) (hbad : Px.Url.utf8Valid path = false) :
    (handleData cfg st data).2 = (.served webPid true, true) ∧
    (handleData cfg st data).1.buffer = st.buffer ++ [cfg.badRequest] ∧
    (tick cfg st data).1.mustFlush = true ∧ reading (tick cfg st data).1 = false := by
  have hoc : cfg.onComplete webPid rq = .ret [cfg.badRequest] true := by
    rw [hcfg]
    unfold webGuard
    have : path.isEmpty = false := by cases path with | nil => exact absurd rfl hne | cons _ _ => rfl
    simp [hpath, this, hbad]
  have hhd : handleData cfg st data =
      ({ st with request := rq, pp := ppNext cfg st data, plugin := some webPid,
                 buffer := st.buffer ++ [cfg.badRequest] }, .served webPid true, true) := by
    rw [handleData_first cfg st data hst]
    unfold parseFirst
    have hu : (handlerProtocol rq == Proto.unknown) = false := by simpa using hproto
    simp [hp, hc, hu, hd, hoc, afterPlugin]
  refine ⟨by rw [hhd], by rw [hhd], ?_, ?_⟩
  · rw [tick_eq, hhd]
    simp [not_escaped_of_reading hr]
  · exact tick_stops cfg st data (Or.inl (by rw [hhd]))

-- non-vacuity of the two theorems above
example : splitCRLF (SP :: b "http://h/ HTTP/1.1\r\n\r\n") = some (b " http://h/ HTTP/1.1", b "\r\n") := by
  rw [b_ofList, b_ofList, b_ofList]
  decide +kernel
example : (handleData { plugins := [[3], [2]], onComplete := webGuard Px.Gen.pkt_BAD_REQUEST_RESPONSE_PKT 1 (fun _ _ => .crash []) } {}
    (b "GET /" ++ [0xff] ++ b " HTTP/1.1\r\n\r\n")).2 = (.served 1 true, true) := by
  rw [b_ofList, b_ofList]
  decide +kernel
example : (handleData { plugins := [[3], [2]], onComplete := webGuard Px.Gen.pkt_BAD_REQUEST_RESPONSE_PKT 1 (fun _ _ => .ret [Px.Gen.pkt_NOT_FOUND_RESPONSE_PKT] true) } {}
    (b "GET /ok HTTP/1.1\r\n\r\n")).1.buffer = [Px.Gen.pkt_NOT_FOUND_RESPONSE_PKT] := by
  rw [b_ofList]; decide +kernel

/-- non-vacuity: the plugin contract is satisfiable, and the three classes all occur -/
example : NoCrash {} := ⟨fun _ _ _ h => (by cases h), fun _ _ _ _ h => (by cases h)⟩
example : (handleData { plugins := [[3]] } {} (b "GET http://h/ HTTP/1.1\r\n")).2.1 = .wait := by
  rw [b_ofList]; decide +kernel
example : (handleData { plugins := [[3]] } {} (b "GET http://h/ HTTP/1.1\r\n\r\n")).2.1 = .served 0 false := by
  rw [b_ofList]; decide +kernel
example : (handleData { plugins := [[3]] } {} (b "GET / HTTP/1.1\r\n\r\n")).2.1 =
    .reject (.noPlugin .webServer) [Px.Gen.pkt_BAD_REQUEST_RESPONSE_PKT] := by
  rw [b_ofList]; decide +kernel
example : (handleData { plugins := [[3]] } {} (b "GET ftp://h/ HTTP/1.1\r\n\r\n")).2.1 =
    .reject (.parse (.parser .httpProtocol)) [Px.Gen.pkt_BAD_REQUEST_RESPONSE_PKT] := by
  rw [b_ofList]; decide +kernel
example : (handleData { plugins := [[3]] } {} (b "GET http://h/ HTTP/2.0\r\n\r\n")).2.1 =
    .reject .unknownProtocol [Px.Gen.pkt_BAD_REQUEST_RESPONSE_PKT] := by
  rw [b_ofList]; decide +kernel
example : (handleData { plugins := [[3]], onComplete := fun _ _ => .raise [] (some Px.Gen.pkt_BAD_GATEWAY_RESPONSE_PKT) } {}
    (b "GET http://h/ HTTP/1.1\r\n\r\n")).2.1 = .reject (.pluginRaised 0) [Px.Gen.pkt_BAD_GATEWAY_RESPONSE_PKT] := by
  rw [b_ofList]; decide +kernel

-- `--enable-proxy-protocol`: a PROXY line in front of the request; malformed ones get the one 400
example : (handleData { plugins := [[3]], proxyProtocol := true } {}
    (b "PROXY TCP4 10.0.0.1 10.0.0.2 1234 80\r\nGET http://h/ HTTP/1.1\r\n\r\n")).2.1 = .served 0 false := by
  rw [b_ofList]; decide +kernel
example : (handleData { plugins := [[3]], proxyProtocol := true } {}
    (b "PROXY TCP4 10.0.0.1 10.0.0.2 1234 80\r\nGET http://h/ HTTP/1.1\r\n\r\n")).1.pp =
    some { version := 1, family := some (b "TCP4"), source := some (b "10.0.0.1", 1234),
           destination := some (b "10.0.0.2", 80) } := by
  rw [b_ofList, b_ofList, b_ofList, b_ofList]
  decide +kernel
example : (handleData { plugins := [[3]], proxyProtocol := true } {} (b "PROXY TCP5 a b 1 2\r\n")).2.1 =
    .reject (.parse .assertion) [Px.Gen.pkt_BAD_REQUEST_RESPONSE_PKT] := by
  rw [b_ofList]; decide +kernel
example : (handleData { plugins := [[3]], proxyProtocol := true } {} (b "PROXY\r\n")).2.1 =
    .reject (.parse (.parser .indexError)) [Px.Gen.pkt_BAD_REQUEST_RESPONSE_PKT] := by
  rw [b_ofList]; decide +kernel
example : (handleData { plugins := [[3]], proxyProtocol := true } {} (b "GET http://h/ HTTP/1.1\r\n")).2.1 =
    .reject (.parse (.parser .httpProtocol)) [Px.Gen.pkt_BAD_REQUEST_RESPONSE_PKT] := by
  rw [b_ofList]; decide +kernel
example : (handleData { plugins := [[3]], proxyProtocol := true } {} (b "PROXY TCP4 10.0.0.1 10.0.")).2.1 = .wait := by
  rw [b_ofList]; decide +kernel
-- the leftover of the segment reaches the plugin within the same call (84c574d)
example : (handleData { plugins := [[3]], onClientData := fun _ _ d => .ret [d] false } {}
    (b "GET http://h/ HTTP/1.1\r\n\r\nNEXT")).1.buffer = [b "NEXT"] := by
  rw [b_ofList, b_ofList]
  decide +kernel
example : (handleData { plugins := [[3]], onClientData := fun _ _ _ => .raise [] none } {}
    (b "GET http://h/ HTTP/1.1\r\n\r\nNEXT")).2.1 = .reject (.pluginRaised 0) [] := by
  rw [b_ofList]; decide +kernel

end Px.First

namespace Px.ParseFuel

open Px.Parser

/-- **C06 parser totality.**  `HttpParser.parse` is a total function in the model, and its
fuel (the model's stand-in for "the `while` loop ends") is never what ends the loop: for every
parser state reachable from a fresh request or response parser by any sequence of `parse`
calls, and every further input, the `while more and state != COMPLETE` loop stops because its
condition became false or an exception was raised (`Natural`).  The inner line loop of
`_process_headers` is likewise independent of its fuel (`processHeaders_fuel`).  Not covered:
the loop of the chunked decoder (`Px.Chunk.loop`), whose fuel lemma is `Px.Chunk.loop_fuel` (C03). -/
theorem C06_parse_fuel (cfg : Cfg) (ty : PType) (segs : List Bytes) (p : Parser) (raw : Bytes)
    (h : parseAll cfg (init ty) segs = .ok p) :
    Natural (parseX cfg p raw) ∧
    parse cfg p raw = (match parseX cfg p raw with
      | .ok r => .ok { r.1 with buffer := if r.2.1.isEmpty then none else some r.2.1 }
      | .error e => .error e) := by
  refine ⟨?_, parseX_parse cfg p raw⟩
  have hi : Inv (setTB (p.totalSize + raw.length) none p) :=
    inv_setTB _ _ (parseAll_wf cfg segs (init ty) p (wf_init ty) h).1
  unfold parseX
  exact loopX_natural cfg _ _ _ _ hi (Nat.lt_of_le_of_lt (rank_le _ _) (by omega))

def okAnd {α : Type} (r : Except Err α) (f : α → Bool) : Bool :=
  match r with
  | .ok a => f a
  | .error _ => false

def errIs {α : Type} (r : Except Err α) (e : Err) : Bool :=
  match r with
  | .ok _ => false
  | .error e' => e' == e

/-- the inputs of the hang findings D18 (repeated Content-Length) and D19 (negative chunk
size): the first completes the request and leaves the stray byte as remainder, the second
raises ValueError, and neither run is cut short by the fuel -/
theorem C06_former_hangs_terminate :
    okAnd (parseX {} (init .request) (b "POST / HTTP/1.1\r\nContent-Length: 5\r\nContent-Length: 0\r\n\r\nX"))
      (fun r => r.2.2 && r.1.state == .complete && r.2.1 == b "X") = true ∧
    errIs (parseX {} (init .request) (b "POST / HTTP/1.1\r\nTransfer-Encoding: chunked\r\n\r\n-1\r\nX")) .valueError = true := by
  rw [b_ofList, b_ofList, b_ofList]
  decide +kernel

/-- non-vacuity: reachable states exist beyond the fresh one, with a body in progress -/
example : okAnd (parseAll {} (init .request) [b "POST / HTTP/1.1\r\nContent-Length: 5\r\n\r\nhe", b "l"])
    (fun p => p.state == .rcvingBody && p.body == some (b "hel")) = true := by
  rw [b_ofList, b_ofList, b_ofList]
  decide +kernel

end Px.ParseFuel

namespace Px.Wf

open Px.Build Px.Resp

/-- **C06 canned.**  Every packet `proxy/http/responses.py` builds at import time (the
generated literals `Px.Gen.pkt_*`) is a well-formed HTTP/1.1 response; the tunnel
acknowledgement as the answer to a CONNECT, the others as answers to any request. -/
theorem C06_canned :
    WF_response .connect Px.Gen.pkt_PROXY_TUNNEL_ESTABLISHED_RESPONSE_PKT = true ∧
    WF_response .other Px.Gen.pkt_PROXY_TUNNEL_UNSUPPORTED_SCHEME = true ∧
    WF_response .other Px.Gen.pkt_PROXY_AUTH_FAILED_RESPONSE_PKT = true ∧
    WF_response .other Px.Gen.pkt_BAD_REQUEST_RESPONSE_PKT = true ∧
    WF_response .other Px.Gen.pkt_NOT_FOUND_RESPONSE_PKT = true ∧
    WF_response .other Px.Gen.pkt_NOT_IMPLEMENTED_RESPONSE_PKT = true ∧
    WF_response .other Px.Gen.pkt_BAD_GATEWAY_RESPONSE_PKT = true := by decide +kernel

/-- the `Build` model applied to the arguments written in responses.py reproduces the
generated packets byte for byte (ties `buildResponse` to the constants) -/
theorem C06_canned_built :
    builtTunnelEstablished = Px.Gen.pkt_PROXY_TUNNEL_ESTABLISHED_RESPONSE_PKT ∧
    builtTunnelUnsupportedScheme = Px.Gen.pkt_PROXY_TUNNEL_UNSUPPORTED_SCHEME ∧
    builtProxyAuthFailed = Px.Gen.pkt_PROXY_AUTH_FAILED_RESPONSE_PKT ∧
    builtBadRequest = Px.Gen.pkt_BAD_REQUEST_RESPONSE_PKT ∧
    builtNotFound = Px.Gen.pkt_NOT_FOUND_RESPONSE_PKT ∧
    builtNotImplemented = Px.Gen.pkt_NOT_IMPLEMENTED_RESPONSE_PKT ∧
    builtBadGateway = Px.Gen.pkt_BAD_GATEWAY_RESPONSE_PKT := by
  unfold builtTunnelEstablished builtTunnelUnsupportedScheme builtProxyAuthFailed builtBadRequest builtNotFound
    builtNotImplemented builtBadGateway
  repeat rw [b_ofList]
  decide +kernel

/-- **C06 builders.**  `build_http_response` yields a well-formed response for ALL arguments
inside `SafeArgs`: version HTTP/1.0 or 1.1, status 100..999, reason / header values made of
field bytes (no CR, LF or other control byte), header names that are tokens, no
caller-supplied Transfer-Encoding, Content-Length only under the name the builder overwrites,
no body on 1xx/204/304 and on 2xx-to-CONNECT, and otherwise `no_cl` only together with
`conn_close`.  Any body, any length. -/
theorem C06_builders (ctx : Ctx) (status : Int) (version : Bytes) (reason : Option Bytes) (headers : HDict)
    (body : Option Bytes) (connClose noCl : Bool)
    (h : SafeArgs ctx status version reason headers body connClose noCl = true) :
    WF_response ctx (buildResponse status version reason headers body connClose noCl) = true :=
  buildResponse_wf ctx status version reason headers body connClose noCl h

/-- guard of `okResponse`: the `**kwargs` / headers part of `SafeArgs` (status and reason are fixed) -/
def SafeOk (headers : HDict) (version : Bytes) (connClose noCl : Bool) : Bool :=
  (version == Px.Gen.http11 || version == Px.Gen.http10) && headers.all (headerOk noCl) && (!noCl || connClose)

/-- `okResponse`, compressed or not (`gz` is any function): the Content-Length is that of the
bytes actually sent. -/
theorem C06_builders_ok (gz : Bytes → Bytes) (content : Option Bytes) (headers : HDict) (compress : Bool)
    (minLen : Int) (version : Bytes) (connClose noCl : Bool) (h : SafeOk headers version connClose noCl = true) :
    WF_response .other (okResponse gz content headers compress minLen version connClose noCl) = true := by
  simp only [SafeOk, Bool.and_eq_true] at h
  obtain ⟨⟨hv, hh⟩, hf⟩ := h
  have hgz : headerOk noCl (b "Content-Encoding", b "gzip") = true :=
    headerOk_plain (by rw [b_ofList]; decide +kernel) (by rw [b_ofList]; decide +kernel)
  have hh' : ∀ (c : Prop) [Decidable c],
      (if c then dSet headers (b "Content-Encoding") (b "gzip") else headers).all (headerOk noCl) = true := by
    intro c _
    split
    · exact List.all_eq_true.2 (Px.Codec.forall_mem_dSet (List.all_eq_true.1 hh) hgz)
    · exact hh
  unfold okResponse
  apply buildResponse_wf
  have hcode : Int.ofNat Px.Gen.code_OK = 200 := by decide
  have hr : (b "OK").all isFieldByte = true := by rw [b_ofList]; decide +kernel
  simp only [SafeArgs, hcode, hv, hr, hh' _, Bool.true_and, Bool.and_true, hf]
  -- what is left speaks of the code 200 only: in range, not bodyless, the context not CONNECT
  rfl

theorem C06_builders_redirect (location : Bytes) (h : location.all isFieldByte = true) :
    WF_response .other (permanentRedirectResponse location) = true ∧
    WF_response .other (seeOthersResponse location) = true := by
  have hloc : headerOk false (b "Location", location) = true :=
    headerOk_plain (by rw [b_ofList]; decide +kernel) h
  have hcl : headerOk false (b "Content-Length", b "0") = true := by rw [b_ofList, b_ofList]; decide +kernel
  constructor
  · apply buildResponse_wf
    have hr : (b "Permanent Redirect").all isFieldByte = true := by rw [b_ofList]; decide +kernel
    simp only [SafeArgs, http11, List.all_cons, List.all_nil, hloc, hcl, hr]
    decide
  · apply buildResponse_wf
    have hr : (b "See Other").all isFieldByte = true := by rw [b_ofList]; decide +kernel
    simp only [SafeArgs, http11, List.all_cons, List.all_nil, hloc, hcl, hr]
    decide

/-- `HttpRequestRejected(status, reason, headers, body).response()`, which is a response only
for a truthy status -/
theorem C06_builders_rejected (status : Option Int) (reason : Option Bytes) (headers : HDict) (body : Option Bytes)
    (r : Bytes) (hr : rejectedResponse status reason headers body = some r)
    (h : ∀ s, status = some s → SafeArgs .other s Px.Gen.http11 reason headers body true false = true) :
    WF_response .other r = true := by
  unfold rejectedResponse at hr
  cases status with
  | none => simp at hr
  | some s =>
    simp only at hr
    split at hr
    · simp at hr
    · simp only [Option.some.injEq] at hr
      rw [← hr]
      exact buildResponse_wf _ _ _ _ _ _ _ _ (h s rfl)

theorem C06_builders_ws (accept : Bytes) (h : accept.all isFieldByte = true) :
    WF_response .other (wsHandshakeResponse accept) = true := by
  have hacc : headerOk false (b "Sec-WebSocket-Accept", accept) = true :=
    headerOk_plain (by rw [b_ofList]; decide +kernel) h
  have hup : headerOk false (b "Upgrade", b "websocket") = true ∧ headerOk false (b "Connection", b "Upgrade") = true ∧
      (b "Switching Protocols").all isFieldByte = true := by
    rw [b_ofList, b_ofList, b_ofList, b_ofList]; decide +kernel
  apply buildResponse_wf
  simp only [SafeArgs, http11, List.all_cons, List.all_nil, hacc, hup.1, hup.2.1, hup.2.2]
  decide

/-- **Outside the guard (reported, not hidden).**  The builders copy their arguments verbatim:
a CR LF inside a value splits the response.  `seeOthersResponse(b'/x\r\n\r\nHTTP/1.1 200 OK\r\n
Content-Length: 0\r\n\r\n')` is not a well-formed response (its header section ends inside the
Location value and a second, attacker-chosen response follows); the argument is outside
`SafeArgs` exactly because of the CR / LF bytes.  Worse, an injection can also yield a
*well-formed* response carrying an attacker-chosen header (third conjunct: a reason phrase
`OK\r\nSet-Cookie: x=1`), which no syntax check of the output can notice — hence the guard. -/
theorem C06_builder_injection_witness :
    let loc := b "/x\r\n\r\nHTTP/1.1 200 OK\r\nContent-Length: 0\r\n\r\n"
    loc.all isFieldByte = false ∧ WF_response .other (seeOthersResponse loc) = false ∧
    WF_response .other (buildResponse 200 Px.Gen.http11 (some (b "OK\r\nSet-Cookie: x=1")) [] (some (b "hi")) false false) = true := by
  rw [b_ofList, b_ofList, b_ofList]
  decide +kernel

/-- **RFC nit (reported).**  `build_websocket_handshake_response` sends `Content-Length: 0` on a
101 response, which RFC 7230 §3.3.2 forbids (MUST NOT on 1xx / 204); clients and h11 ignore it,
and `WF_response` tolerates a zero Content-Length there. -/
theorem C06_ws_handshake_cl_witness :
    strictNoCl (wsHandshakeResponse (b "s3pPLMBiTxaQ9kYGzzhZRbK+xOo=")) = false ∧
    strictNoCl Px.Gen.pkt_BAD_REQUEST_RESPONSE_PKT = true := by
  unfold wsHandshakeResponse
  repeat rw [b_ofList]
  decide +kernel

/-! non-vacuity of the guards, and what the checker refuses -/
example : SafeArgs .other 400 Px.Gen.http11 (some (b "BAD REQUEST")) [(b "Server", b "proxy.py")] none true false = true := by
  rw [b_ofList, b_ofList, b_ofList]
  decide +kernel
example : SafeArgs .connect 200 Px.Gen.http11 (some (b "Connection established")) [] none false true = true := by
  rw [b_ofList]; decide +kernel
example : SafeArgs .other 200 Px.Gen.http10 none [(b "Content-Length", b "999"), (b "X-Y", b "caf\xc3\xa9 ok")]
    (some (b "body")) false false = true := by
  rw [b_ofList, b_ofList, b_ofList, b_ofList, b_ofList]
  decide +kernel
example : SafeOk [(b "Content-Type", b "text/plain")] Px.Gen.http11 true false = true := by
  rw [b_ofList, b_ofList]
  decide +kernel
example : SafeArgs .other 200 Px.Gen.http11 none [(b "X", b "a\r\nY: b")] none false false = false := by
  rw [b_ofList, b_ofList]
  decide +kernel
example : SafeArgs .other 200 Px.Gen.http11 none [(b "transfer-encoding", b "chunked")] none false false = false := by
  rw [b_ofList, b_ofList]
  decide +kernel
example : SafeArgs .other 200 Px.Gen.http11 none [] (some (b "x")) false true = false := by
  rw [b_ofList]; decide +kernel
-- the checker itself: chunked bodies, wrong lengths, missing framing
example : WF_response .other (b "HTTP/1.1 200 OK\r\nTransfer-Encoding: chunked\r\n\r\n5;x=y\r\nhello\r\n0\r\nT: v\r\n\r\n") = true := by
  rw [b_ofList]; decide +kernel
example : WF_response .other (b "HTTP/1.1 200 OK\r\nTransfer-Encoding: chunked\r\n\r\n5\r\nhell\r\n0\r\n\r\n") = false := by
  rw [b_ofList]; decide +kernel
example : WF_response .other (b "HTTP/1.1 200 OK\r\nContent-Length: 3\r\n\r\nhi") = false := by
  rw [b_ofList]; decide +kernel
example : WF_response .other (b "HTTP/1.1 200 OK\r\nContent-Length: 1\r\n\r\nhi") = false := by
  rw [b_ofList]; decide +kernel
example : WF_response .other (b "HTTP/1.1 200 OK\r\n\r\n") = false := by
  rw [b_ofList]; decide +kernel
example : WF_response .other (b "HTTP/1.1 200 OK\r\nConnection: Keep-Alive, Close\r\n\r\nuntil close") = true := by
  rw [b_ofList]; decide +kernel
example : WF_response .other (b "HTTP/1.1 200 OK\nContent-Length: 0\n\n") = false := by
  rw [b_ofList]; decide +kernel
example : WF_response .other (b "HTTP/1.1 200 OK\r\nBad Name: x\r\nContent-Length: 0\r\n\r\n") = false := by
  rw [b_ofList]; decide +kernel
example : WF_response .other Px.Gen.pkt_PROXY_TUNNEL_ESTABLISHED_RESPONSE_PKT = false := by decide +kernel

end Px.Wf

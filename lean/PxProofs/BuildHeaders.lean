import PxProofs.BuildGuards
/-!
# What the builders add, and when (C15)

When the caller's header names do not collide (case-insensitively) with the names the builders write, the header
list sent is the caller's list followed by the builder's additions in a fixed order.  Collisions follow Python
dict semantics (`dSet`: same spelling → replaced in place, other spelling → a second header is appended).
-/
namespace Px.Codec

open Px.Parser Px.Build

/-- no caller header is named (case-insensitively) like one the builders write or look for -/
def disjointFromBuilder (hs : HDict) : Bool :=
  hs.all (fun e => lower e.1 != lower nCT && lower e.1 != kCL && lower e.1 != kUA &&
    lower e.1 != lower nConn && lower e.1 != kTE)

theorem disjoint_mem {hs : HDict} (h : disjointFromBuilder hs = true) {e : Bytes × Bytes} (he : e ∈ hs) :
    lower e.1 ≠ lower nCT ∧ lower e.1 ≠ kCL ∧ lower e.1 ≠ kUA ∧ lower e.1 ≠ lower nConn ∧ lower e.1 ≠ kTE := by
  simp only [disjointFromBuilder, List.all_eq_true, Bool.and_eq_true, bytes_bne, ne_eq] at h
  obtain ⟨⟨⟨⟨a, b⟩, c⟩, d⟩, f⟩ := h e he
  exact ⟨a, b, c, d, f⟩

def ctPart (ct : Option Bytes) : HDict := match ct with | some c => [(nCT, c)] | none => []
def clPart (body : Option Bytes) : HDict :=
  if bodyTruthy body then [(nCL, natToDec (body.getD []).length)] else []
def uaPart (ua : Bytes) (noUa : Bool) : HDict := if noUa then [] else [(nUA, ua)]
def connPart (cc : Bool) : HDict := if cc then [(nConn, vClose)] else []

theorem nCT_not_ua : lower nCT ≠ kUA := by decide +kernel
theorem nCL_not_ua : lower nCL ≠ kUA := by decide +kernel

theorem req_headers_disjoint (ua : Bytes) (ct : Option Bytes) (hs : HDict) (body : Option Bytes) (cc noUa : Bool)
    (h : disjointFromBuilder hs = true) :
    reqHeaders ua ct hs body cc noUa = hs ++ ctPart ct ++ clPart body ++ uaPart ua noUa ++ connPart cc := by
  have hname : ∀ e ∈ hs, e.1 ≠ nCT ∧ e.1 ≠ nCL ∧ e.1 ≠ nUA ∧ e.1 ≠ nConn := by
    intro e he
    obtain ⟨a, b, c, d, -⟩ := disjoint_mem h he
    exact ⟨ne_of_lower_ne a, ne_of_lower_ne (by rw [lower_nCL]; exact b), ne_of_lower_ne (by rw [lower_nUA]; exact c),
      ne_of_lower_ne d⟩
  -- each stage holds the caller's headers and the names written so far, so the next name is new to it
  have m1 : ∀ e ∈ reqH1 ct hs, e ∈ hs ∨ e.1 = nCT := fun e he =>
    (mem_reqH1 he).imp_right fun ⟨_, _, h⟩ => h ▸ rfl
  have m2 : ∀ e ∈ reqH2 ct hs body, e ∈ hs ∨ e.1 = nCT ∨ e.1 = nCL := fun e he =>
    (mem_reqH2 he).elim (fun h => (m1 e h).imp_right .inl) (fun h => .inr (.inr (h.2.2 ▸ rfl)))
  have m3 : ∀ e ∈ reqH3 ua ct hs body noUa, e ∈ hs ∨ e.1 = nCT ∨ e.1 = nCL ∨ e.1 = nUA := fun e he =>
    (mem_reqH3 he).elim (fun h => (m2 e h).imp_right (.imp_right .inl)) (fun h => .inr (.inr (.inr (h.2.2 ▸ rfl))))
  have hte : hasKey kTE (reqH1 ct hs) = false := hasKey_false fun e he =>
    (m1 e he).elim (fun h1 => (disjoint_mem h h1).2.2.2.2) (fun h1 => h1 ▸ nCT_not_te)
  have hua : hasKey kUA (reqH1 ct hs) = false := hasKey_false fun e he =>
    (m1 e he).elim (fun h1 => (disjoint_mem h h1).2.2.1) (fun h1 => h1 ▸ nCT_not_ua)
  have e1 : reqH1 ct hs = hs ++ ctPart ct := by
    cases ct with
    | none => exact (List.append_nil hs).symm
    | some c => exact dSet_of_not_mem _ _ _ (fun e he => (hname e he).1)
  have e2 : reqH2 ct hs body = reqH1 ct hs ++ clPart body := by
    unfold reqH2 clPart
    rw [hte, Bool.not_false, Bool.and_true]
    exact ite_dSet_fresh (fun e he => (m1 e he).elim (fun h1 => (hname e h1).2.1) (fun h1 => h1 ▸ nCT_ne_nCL)) _ _
  have e3 : reqH3 ua ct hs body noUa = reqH2 ct hs body ++ uaPart ua noUa := by
    unfold reqH3 uaPart
    rw [hua, Bool.not_false, Bool.true_and]
    have := ite_dSet_fresh (fun e he => (m2 e he).elim (fun h1 => (hname e h1).2.2.1)
      (fun h1 => h1.elim (· ▸ nCT_ne_nUA) (· ▸ nCL_ne_nUA))) (!noUa) ua
    cases noUa <;> exact this
  unfold reqHeaders pktHeaders connPart
  rw [ite_dSet_fresh (fun e he => (m3 e he).elim (fun h1 => (hname e h1).2.2.2)
    (fun h1 => h1.elim (· ▸ nCT_ne_nConn) (fun h1 => h1.elim (· ▸ nCL_ne_nConn) (· ▸ nUA_ne_nConn)))), e3, e2, e1]

/-- a caller-supplied `transfer-encoding` header (any spelling, any value) suppresses `Content-Length` -/
theorem req_no_cl_when_te (ua : Bytes) (ct : Option Bytes) (hs : HDict) (body : Option Bytes) (cc noUa : Bool)
    (h : hasKey kTE hs = true) (hncl : hasKey kCL hs = false) :
    ∀ e ∈ reqHeaders ua ct hs body cc noUa, isCL e = false := by
  obtain ⟨t, ht, hk⟩ := List.any_eq_true.1 h
  exact reqHeaders_noCL ht (bytes_beq.1 hk) fun e he hc => List.any_eq_false.1 hncl e he (bytes_beq.2 hc)

theorem req_no_ua_when_given (ua : Bytes) (ct : Option Bytes) (hs : HDict) (body : Option Bytes) (noUa : Bool)
    (h : hasKey kUA hs = true ∨ noUa = true) :
    reqH3 ua ct hs body noUa = reqH2 ct hs body := by
  unfold reqH3
  rcases h with h | h
  · have : hasKey kUA (reqH1 ct hs) = true := by
      obtain ⟨t, ht, hk⟩ := List.any_eq_true.1 h
      have hk' : lower t.1 = kUA := bytes_beq.1 hk
      have hmem : t ∈ reqH1 ct hs :=
        mem_reqH1_of_mem ht (ne_of_lower_ne (by rw [hk']; exact fun h => nCT_not_ua h.symm))
      exact List.any_eq_true.2 ⟨t, hmem, hk⟩
    simp [this]
  · simp [h]

theorem res_headers_disjoint (hs : HDict) (body : Option Bytes) (cc noCl : Bool)
    (h : disjointFromBuilder hs = true) :
    resHeaders hs body cc noCl =
      hs ++ (if noCl then [] else [(nCL, if bodyTruthy body then natToDec (body.getD []).length else [48])]) ++
        connPart cc := by
  have hname : ∀ e ∈ hs, e.1 ≠ nCL ∧ e.1 ≠ nConn := by
    intro e he
    obtain ⟨-, b, -, d, -⟩ := disjoint_mem h he
    exact ⟨ne_of_lower_ne (by rw [lower_nCL]; exact b), ne_of_lower_ne d⟩
  have hte : hasKey kTE hs = false := hasKey_false (fun e he => (disjoint_mem h he).2.2.2.2)
  unfold resHeaders pktHeaders connPart
  rw [hte, Bool.not_false, Bool.true_and]
  rw [ite_dSet_fresh (fun e he => (hname e he).1) (!noCl)]
  refine (ite_dSet_fresh (fun e he => ?_) cc vClose).trans ?_
  · rcases List.mem_append.1 he with h1 | h1
    · exact (hname e h1).2
    · cases noCl
      · rw [List.mem_singleton.1 h1]; exact nCL_ne_nConn
      · cases h1
  · cases noCl <;> rfl

theorem res_no_cl_when_te (hs : HDict) (body : Option Bytes) (cc noCl : Bool)
    (h : hasKey kTE hs = true ∨ noCl = true) :
    resHeaders hs body cc noCl = pktHeaders hs cc := by
  unfold resHeaders
  rcases h with h | h <;> simp [h]

end Px.Codec

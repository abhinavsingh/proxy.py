import PxModel.Modes
import PxProofs.ModesLemmas
import PxProofs.C01
import PxProofs.C07
import PxProofs.C20
/-!
# C17 — threaded, local-threadless and remote-threadless modes behave identically

The model (`PxModel/Modes.lean`: the three drivers `threadedRun` / `localRun` / `remoteRun`
over the common handler model `Relay.step` / `Relay.shutdown`) is tied to
`proxy/http/handler.py` `run()` / `_run_once()` / `shutdown()` / `_flush()` and to
the executor loop by the handler-level runs of `harness/c17.py`; the live
differential runs of the same harness compare real `proxy.Proxy` instances in
the three modes.

**Label: partial.**  What is proved: the three drivers feed the *same* handler
function with tick lists from the same space (`C17_same_step`), local and remote
are the same function on the handler level (`C17_local_remote_identical`), on
corresponding scripts threaded and threadless runs give the same transcript
(`C17_same_transcript_partial`), and the one piece of mode-specific handler code —
threaded `_flush()` in `shutdown()` versus the `must_flush_before_shutdown`
deferral — delivers the same bytes and then closes (`C17_flush_vs_deferral`).
Not provable, because it is false in the model and in the code: when an
exception escapes `handle_events` while output is pending, threaded mode still
delivers it and threadless mode drops it (`C17_raised_pending_differs`,
`C17_raised_difference`).  Outside any Lean model: process creation,
`send_handle`, thread scheduling, acceptor load balancing.
-/
namespace Px.Modes
open Px Px.Relay Px.Conn

/-- **C17 same step.**  The main loop of each driver is `Relay.run` — the function every C01 /
C07 theorem quantifies over — on the environment inputs of the `handle_events` calls it made:
a prefix (threaded: every iteration calls the handler) resp. a sublist (executor: rounds in
which no descriptor of the work is ready make no call) of the ticks of the script.  So
every theorem proved for all tick lists holds in all three modes. -/
theorem C17_same_step (s : St) (tr : List TRound) (er : List ERound) (fl : List SelEv) :
    (run s (threadedRun s tr fl).loop.calls =
        ((threadedRun s tr fl).loop.st, (threadedRun s tr fl).loop.stop.toRet) ∧
      (threadedRun s tr fl).loop.calls <+: tr.map (·.tick)) ∧
    (run s (localRun s er).loop.calls =
        ((localRun s er).loop.st, (localRun s er).loop.stop.toRet) ∧
      (localRun s er).loop.calls.Sublist (er.map (·.tick))) ∧
    (run s (remoteRun s er).loop.calls =
        ((remoteRun s er).loop.st, (remoteRun s er).loop.stop.toRet) ∧
      (remoteRun s er).loop.calls.Sublist (er.map (·.tick))) :=
  ⟨⟨threadedLoop_run tr s, threadedLoop_calls_prefix tr s⟩,
   ⟨execLoop_run er s, execLoop_calls_sublist er s⟩,
   ⟨execLoop_run er s, execLoop_calls_sublist er s⟩⟩

theorem C17_transfer (P : St → Prop) (s : St) (h : ∀ ticks, P (run s ticks).1)
    (tr : List TRound) (er : List ERound) (fl : List SelEv) :
    P (threadedRun s tr fl).loop.st ∧ P (localRun s er).loop.st ∧ P (remoteRun s er).loop.st := by
  have h1 := h (threadedLoop s tr).calls
  rw [threadedLoop_run] at h1
  have h2 := h (execLoop s er).calls
  rw [execLoop_run] at h2
  exact ⟨h1, h2, h2⟩

theorem C17_C01_in_all_modes (m : Nat) (tr : List TRound) (er : List ERound) (fl : List SelEv) :
    (let s := (threadedRun (initTunnel m) tr fl).loop.st
     s.sentC ++ s.client.buffer.flatten = ack ++ s.recvU) ∧
    (let s := (localRun (initTunnel m) er).loop.st
     s.sentC ++ s.client.buffer.flatten = ack ++ s.recvU) ∧
    (let s := (remoteRun (initTunnel m) er).loop.st
     s.sentC ++ s.client.buffer.flatten = ack ++ s.recvU) :=
  C17_transfer (fun s => s.sentC ++ s.client.buffer.flatten = ack ++ s.recvU) (initTunnel m)
    (C01_tunnel_down m) tr er fl

/-- **descriptor bookkeeping.**  In every mode no descriptor is closed twice or
before it exists; once `shutdown()` (and, remote, `os.close(work_id)`) has run no
descriptor of the connection is left open in any process; before that the one the
handler's socket object wraps is open. -/
theorem C17_fd_bookkeeping (m : Mode) (finished : Bool) :
    (fdRun (fdOps m finished)).bad = false ∧
    (finished = true → (fdRun (fdOps m finished)).openNow = []) ∧
    (finished = false → handlerDesc m ∈ (fdRun (fdOps m finished)).openNow) := by
  cases m <;> cases finished <;> decide

theorem fdsReleased_eq (m : Mode) (f : Bool) :
    ((fdRun (fdOps m f)).openNow.isEmpty && !(fdRun (fdOps m f)).bad) = f := by
  cases m <;> cases f <;> decide

/-- **C17 local = remote** on the handler level, for every script.  They differ only in
which descriptors exist (`C17_fd_bookkeeping`). -/
theorem C17_local_remote_identical (s : St) (er : List ERound) :
    (remoteRun s er).loop = (localRun s er).loop ∧
    (remoteRun s er).shut = (localRun s er).shut ∧
    transcript (remoteRun s er) = transcript (localRun s er) := by
  refine ⟨rfl, rfl, ?_⟩
  simp only [transcript, remoteRun, localRun, mkRun, fdsReleased_eq, local_beq, remote_beq]

theorem transcript_key (m : Mode) (l : LoopRes) (fl : List SelEv) :
    transcript (mkRun m l fl) = transcript (mkRun m ⟨(key l).1, (key l).2, []⟩ fl) := rfl

theorem transcript_congr_key (m : Mode) (fl : List SelEv) {a b : LoopRes} (hk : key a = key b) :
    transcript (mkRun m a fl) = transcript (mkRun m b fl) := by
  rw [transcript_key m a, transcript_key m b, hk]

theorem shutAfter_of_ne (threaded : Bool) (l : LoopRes) (fl : List SelEv) (hs : l.stop ≠ .scriptEnd) :
    shutAfter threaded l fl = some (shutdown threaded l.st.maxSend l.st.client fl) := by
  unfold shutAfter
  cases h : l.stop <;> first | rfl | exact absurd h hs

theorem transcript_scriptEnd (m : Mode) (l : LoopRes) (fl : List SelEv) (h : l.stop = .scriptEnd) :
    transcript (mkRun m l fl) =
      ⟨l.st.sentC, l.st.sentU, l.st.recvC, l.st.recvU, false, false, [], false⟩ := by
  simp [transcript, mkRun, shutAfter, h, fdsReleased_eq]

theorem transcript_plain (m : Mode) (l : LoopRes) (fl : List SelEv) (hs : l.stop ≠ .scriptEnd)
    (hp : (m == .threaded) = false ∨ l.st.client.hasBuffer = false) :
    transcript (mkRun m l fl) =
      ⟨l.st.sentC, l.st.sentU, l.st.recvC, l.st.recvU, true, true, l.st.client.buffer.flatten, true⟩ := by
  simp [transcript, mkRun, shutAfter_of_ne _ l fl hs, shutdown_plain _ _ _ fl hp, fdsReleased_eq]

theorem transcript_flushed (l : LoopRes) (fl : List SelEv) (hs : l.stop ≠ .scriptEnd)
    (hb : l.st.client.hasBuffer = true)
    (hgf : ∀ e ∈ fl, e = .timeout ∨ ∃ k, e = .ready (.sent (k + 1)))
    (hnf : pending l.st.client ≤ readyCount fl) :
    transcript (mkRun .threaded l fl) =
      ⟨l.st.sentC ++ l.st.client.buffer.flatten, l.st.sentU, l.st.recvC, l.st.recvU, true, true, [], true⟩ := by
  obtain ⟨_, d2, d3, d4, d5⟩ := C07_threaded_drains l.st.maxSend l.st.client fl hb hgf hnf
  simp [transcript, mkRun, shutAfter_of_ne _ l fl hs, fdsReleased_eq, d2, d3, d4, d5]

theorem transcript_drained (m m' : Mode) (l : LoopRes) (fl fl' : List SelEv)
    (hd : l.stop ≠ .scriptEnd → l.st.client.hasBuffer = false) :
    transcript (mkRun m l fl) = transcript (mkRun m' l fl') := by
  by_cases hs : l.stop = .scriptEnd
  · rw [transcript_scriptEnd m l fl hs, transcript_scriptEnd m' l fl' hs]
  · rw [transcript_plain m l fl hs (.inr (hd hs)), transcript_plain m' l fl' hs (.inr (hd hs))]

/-- **C17 same transcript (partial).**

Full statement (false, see below): *for every handler state between rounds, every
threaded script whose client never fails a `send`, and every `_flush` script, the
transcript of the threaded run equals that of the local and of the remote run on
the corresponding executor script.*

Proved: the statement with the extra hypothesis `hx` that the loop does not end by
an exception escaping `handle_events` while client output is pending.  Under it
threaded `_flush()` is never entered (teardown and inactivity leave nothing
pending: `C07_no_early_close`), so `shutdown()` is the same function in all modes
and the threaded iteration on a select timeout (`handle_events([], [])`) is a
stutter.  What is missing is exactly the excluded case, in which the modes really
differ: `C17_raised_pending_differs` (witness) and `C17_raised_difference`
(general form).  Corresponding scripts: `shiftRounds` (same ticks; the threaded
`is_inactive()` outcome of iteration `i+1` is the reaper outcome after executor
round `i`; the handler is fresh, so the first threaded check is negative). -/
theorem C17_same_transcript_partial (s : St) (rounds : List TRound) (fl : List SelEv)
    (ha : Alive s)
    (h0 : ∀ r, rounds.head? = some r → isInactive s r.expired = false)
    (hok : ∀ r ∈ rounds, SendOk r.tick)
    (hx : (threadedLoop s rounds).stop = .raised →
      (threadedLoop s rounds).st.client.hasBuffer = false) :
    transcript (threadedRun s rounds fl) = transcript (localRun s (shiftRounds rounds)) ∧
    transcript (threadedRun s rounds fl) = transcript (remoteRun s (shiftRounds rounds)) := by
  have hk := loops_key_fresh s rounds ha h0
  have hd : (threadedLoop s rounds).stop ≠ .scriptEnd →
      (threadedLoop s rounds).st.client.hasBuffer = false := by
    intro hne
    cases hs : (threadedLoop s rounds).stop with
    | scriptEnd => exact absurd hs hne
    | teardown => exact threadedLoop_teardown_drained rounds s hok hs
    | inactive => exact threadedLoop_inactive rounds s hs
    | raised => exact hx hs
  exact ⟨(transcript_drained .threaded .local _ fl [] hd).trans (transcript_congr_key .local [] hk),
         (transcript_drained .threaded .remote _ fl [] hd).trans (transcript_congr_key .remote [] hk)⟩

/-- a run satisfying the hypotheses: CONNECT acknowledged, upstream data arrives, a select timeout, a
short write, upstream EOF, drain, teardown -/
example :
    let s := initTunnel 4
    let rounds : List TRound := [
      ⟨false, ⟨false, false, true, false, .blocking, .data [1, 2, 3], .blocking, .blocking, .raised⟩⟩,
      ⟨false, ⟨false, false, false, false, .blocking, .blocking, .blocking, .blocking, .raised⟩⟩,
      ⟨false, ⟨true, true, true, true, .data [9, 9], .eof, .sent 2, .sent 5, .raised⟩⟩,
      ⟨true, ⟨false, true, false, true, .blocking, .blocking, .sent 100, .sent 5, .raised⟩⟩,
      ⟨true, ⟨false, true, false, false, .blocking, .blocking, .sent 100, .blocking, .raised⟩⟩] ++
      List.replicate 12 ⟨true, ⟨false, true, false, false, .blocking, .blocking, .sent 100, .blocking, .raised⟩⟩
    Alive s ∧ (∀ r, rounds.head? = some r → isInactive s r.expired = false) ∧
    (∀ r ∈ rounds, SendOk r.tick) ∧ (threadedLoop s rounds).stop = .teardown ∧
    (transcript (threadedRun s rounds [])).toClient = ack ++ [1, 2, 3] ∧
    (transcript (localRun s (shiftRounds rounds))).toClient = ack ++ [1, 2, 3] ∧
    (transcript (threadedRun s rounds [])).toUpstream = [9, 9] ∧
    (transcript (threadedRun s rounds [])).closed = true ∧
    (localRun s (shiftRounds rounds)).loop.calls.length + 1 =
      (threadedRun s rounds []).loop.calls.length := by
  decide +kernel

/-- inactivity in the script: both loops stop at the same point (nothing pending) -/
example :
    let s := initHttp 0 [71]
    let rounds : List TRound := [
      ⟨false, ⟨false, false, false, true, .blocking, .blocking, .blocking, .sent 9, .raised⟩⟩,
      ⟨true, ⟨false, false, true, false, .blocking, .data [5], .blocking, .blocking, .raised⟩⟩]
    (threadedLoop s rounds).stop = .inactive ∧ (execLoop s (shiftRounds rounds)).stop = .inactive ∧
    transcript (threadedRun s rounds []) = transcript (localRun s (shiftRounds rounds)) := by
  decide +kernel

/-- **C17 flush vs deferral.**  The mode-specific handler code.  From a final-flush state with
output pending:
* threadless: `handle_events` does not return `True`; the executor keeps running
  rounds (`must_flush_before_shutdown` / `reads_teared` deferral) until teardown, and `shutdown()`
  closes without sending;
* threaded, had `shutdown()` been called at once: `_flush()` sends until the
  buffer is empty, then closes.
Both deliver the same bytes, lose nothing, and close after the data (via `C07_delivered` and
`C07_threaded_drains`). -/
theorem C17_flush_vs_deferral (s : St) (rounds : List ERound) (fl : List SelEv)
    (hf : FinalFlush s) (hi : FlushInv s) (hb : s.client.hasBuffer = true)
    (hg : ∀ r ∈ rounds, GoodTick r.tick) (hn : pending s.client ≤ rounds.length)
    (hgf : ∀ e ∈ fl, e = .timeout ∨ ∃ k, e = .ready (.sent (k + 1)))
    (hnf : pending s.client ≤ readyCount fl) :
    let a := transcript (mkRun .threaded ⟨s, .teardown, []⟩ fl)
    let b := transcript (localRun s rounds)
    a.toClient = s.sentC ++ s.client.buffer.flatten ∧ b.toClient = s.sentC ++ s.client.buffer.flatten ∧
    a.lost = [] ∧ b.lost = [] ∧ a.closed = true ∧ b.closed = true ∧
    a.upstreamReleased = true ∧ b.upstreamReleased = true := by
  obtain ⟨e1, e2, e3⟩ := C07_delivered s (rounds.map (·.tick)) hf hi hb (List.forall_mem_map.2 hg)
    (by rw [List.length_map]; exact hn)
  -- the executor loop is `Relay.run` here, so it ends in teardown with everything delivered
  have hx := execLoop_final_flush rounds s hf hb hg
  have hst : (execLoop s rounds).st = (run s (rounds.map (·.tick))).1 := congrArg Prod.fst hx
  have hstop : (execLoop s rounds).stop = .teardown := by
    have hre : (execLoop s rounds).stop.toRet = .teardown := (congrArg Prod.snd hx).trans e1
    cases h : (execLoop s rounds).stop <;> rw [h] at hre <;> first | rfl | cases hre
  simp only [localRun]
  rw [transcript_flushed ⟨s, .teardown, []⟩ fl nofun hb hgf hnf,
    transcript_plain .local (execLoop s rounds) [] (by rw [hstop]; nofun) (.inl rfl), hst, e2, e3]
  exact ⟨rfl, rfl, rfl, rfl, rfl, rfl, rfl, rfl⟩

/-- a 404-like reply in two pieces with `max_send = 2` -/
example :
    let s := st0 .local 2 [[1, 2, 3], [4]] [] true false
    let rounds : List ERound := List.replicate 6
      ⟨⟨true, true, false, false, .blocking, .blocking, .sent 1, .blocking, .raised⟩, some true⟩
    let fl : List SelEv := [.timeout, .ready (.sent 2), .ready (.sent 9), .ready (.sent 1), .ready (.sent 1),
      .ready (.sent 1), .ready (.sent 1)]
    pending s.client ≤ rounds.length ∧ pending s.client ≤ readyCount fl ∧
    (transcript (localRun s rounds)).toClient = [1, 2, 3, 4] ∧
    (transcript (mkRun .threaded ⟨s, .teardown, []⟩ fl)).toClient = [1, 2, 3, 4] := by
  decide +kernel

/-- **the modes differ (witness, D30).**  Plain-HTTP exchange, three response bytes
queued for a client that is not writable yet; the client's follow-up request
makes the request pipeline raise (`Tick.app = raised`: e.g. `Content-Length: x`
→ `ValueError` out of `HttpParser.parse`).  Threaded: `run()` catches the
exception, `shutdown()` → `_flush()` delivers the three bytes, then closes.
Threadless (local and remote): `_cleanup` → `shutdown()` closes at once; the three
bytes are lost. -/
theorem C17_raised_pending_differs :
    let s := st0 .http 0 [[1, 2, 3]] [] false false
    let t : Tick := ⟨true, false, false, false, .data [88], .blocking, .blocking, .blocking, .raised⟩
    let th := transcript (threadedRun s [⟨false, t⟩] [.ready (.sent 100)])
    let lo := transcript (localRun s (shiftRounds [⟨false, t⟩]))
    let re := transcript (remoteRun s (shiftRounds [⟨false, t⟩]))
    (threadedRun s [⟨false, t⟩] []).loop.stop = .raised ∧
    th.toClient = [1, 2, 3] ∧ th.lost = [] ∧ th.closed = true ∧
    lo.toClient = [] ∧ lo.lost = [1, 2, 3] ∧ lo.closed = true ∧ re = lo := by
  decide +kernel

/-- **the modes differ (general form)**: threaded mode delivers exactly what threadless mode
delivers *plus* the bytes threadless mode loses (everything that was pending); both close. -/
theorem C17_raised_difference (s : St) (rounds : List TRound) (fl : List SelEv)
    (ha : Alive s) (h0 : ∀ r, rounds.head? = some r → isInactive s r.expired = false)
    (hr : (threadedLoop s rounds).stop = .raised)
    (hb : (threadedLoop s rounds).st.client.hasBuffer = true)
    (hgf : ∀ e ∈ fl, e = .timeout ∨ ∃ k, e = .ready (.sent (k + 1)))
    (hnf : pending (threadedLoop s rounds).st.client ≤ readyCount fl) :
    let th := transcript (threadedRun s rounds fl)
    let lo := transcript (localRun s (shiftRounds rounds))
    th.toClient = lo.toClient ++ lo.lost ∧
    lo.lost = (threadedLoop s rounds).st.client.buffer.flatten ∧ th.lost = [] ∧
    th.closed = true ∧ lo.closed = true ∧ th.toUpstream = lo.toUpstream := by
  have hs : (threadedLoop s rounds).stop ≠ .scriptEnd := by rw [hr]; nofun
  simp only [threadedRun, localRun]
  rw [← transcript_congr_key .local [] (loops_key_fresh s rounds ha h0),
    transcript_plain .local _ [] hs (.inl rfl), transcript_flushed _ fl hs hb hgf hnf]
  exact ⟨rfl, rfl, rfl, rfl, rfl, rfl⟩

/-- **C17 hand-off is atomic.**  `delegate_work_to_pool` sends the client address
and the descriptor under one acquisition of the worker lock.  For every schedule
of any number of delegate threads sharing one worker pipe (steps of threads blocked on the lock
included), whenever the lock is free the worker's receive loop (`recv()`, `recv_handle()`, repeat)
reads exactly the pairs `(i, i)` in acquisition order and never an address where a descriptor is due. -/
theorem C17_handoff_atomic (sched : List Nat) :
    HInv (hrun lockedProg sched) ∧
    ((hrun lockedProg sched).lock = none →
      recvAll (hrun lockedProg sched).pipe = some ((hrun lockedProg sched).acq.map (fun j => (j, j)))) := by
  have h : HInv (hrun lockedProg sched) := hrun_inv_from sched {} ⟨fun _ _ => .inl rfl, rfl⟩
  refine ⟨h, fun hl => ?_⟩
  have h2 := h.2
  rw [hl] at h2
  rw [show (hrun lockedProg sched).pipe = _ from h2]
  exact recvAll_pairs _

example :
    let s := hrun lockedProg [0, 1, 0, 2, 1, 0, 0, 2, 1, 2, 2, 2, 1, 1, 1, 1]
    s.lock = none ∧ s.acq = [0, 2, 1] ∧ recvAll s.pipe = some [(0, 0), (2, 2), (1, 1)] := by
  decide +kernel

/-- **the lock must cover both sends.**  With the address sent before the lock is
taken ("hold the lock only while the descriptor is in flight") two simultaneous
hand-offs can put `addr 0, addr 1, fd 0, fd 1` on the pipe: the worker's
`recv_handle()` finds pickled address bytes. -/
theorem C17_handoff_needs_lock :
    (hrun addrOutsideProg [0, 1, 0, 0, 0, 1, 1, 1]).pipe = [.addr 0, .addr 1, .fd 0, .fd 1] ∧
    recvAll (hrun addrOutsideProg [0, 1, 0, 0, 0, 1, 1, 1]).pipe = none ∧
    (hrun addrOutsideProg [0, 1, 0, 0, 0, 1, 1, 1]).lock = none := by
  decide +kernel

theorem recvFramed_frame (e : Bool) (i : Nat) (rest : List Item) :
    recvFramed e (frame e i ++ rest) = (recvFramed e rest).map ((if e then some i else none, i) :: ·) := by
  cases e <;> rfl

/-- **C17 hand-off framing.**  Sender (`delegate_work_to_pool`) and receiver
(`receive_from_work_queue`) both decide from the one flag `unix_socket_path` whether
an address item precedes the descriptor, so for connections of either kind (accepted on a TCP
listener, with an address, or on the unix listener, without) the receiver's reads line up. -/
theorem C17_handoff_framing (u : Bool) (hs : List (Nat × ConnKind)) :
    recvFramed (receiverExpects u) (framedPipe senderSends u hs) =
      some (hs.map (fun h => (if u then none else some h.1, h.1))) := by
  induction hs with
  | nil => rfl
  | cons h hs ih =>
    show recvFramed (!u) (frame (!u) h.1 ++ framedPipe senderSends u hs) = _
    rw [recvFramed_frame, show recvFramed (!u) (framedPipe senderSends u hs) = _ from ih]
    cases u <;> rfl

/-- **the two sides must use the same rule.**  If the sender sends the address
whenever the connection has one while the receiver still goes by the flag, the first
TCP client of a proxy started with `--unix-socket-path … --ports …` makes the worker
read the pickled address where the descriptor message is due. -/
theorem C17_handoff_framing_mismatch :
    framedPipe senderSendsByAddr true [(0, .tcp), (1, .unix)] = [.addr 0, .fd 0, .fd 1] ∧
    recvFramed (receiverExpects true) (framedPipe senderSendsByAddr true [(0, .tcp), (1, .unix)]) = none ∧
    recvFramed (receiverExpects true) (framedPipe senderSends true [(0, .tcp), (1, .unix)]) =
      some [(none, 0), (none, 1)] := by
  decide +kernel

/-- **C17 hand-off queue is lossless.**  The queue between an acceptor and its local
executor is an unbounded FIFO: for every sequence of `put`s (accepted connections) and `get`s (one
per executor round, `Empty` when nothing waits) no work is dropped, duplicated or reordered. -/
theorem C17_handoff_queue_lossless (ops : List QOp) :
    (qrun ops).got.filterMap id ++ (qrun ops).q = putsOf ops ∧
    ((qrun ops).q = [] → (qrun ops).got.filterMap id = putsOf ops) := by
  have h : (qrun ops).got.filterMap id ++ (qrun ops).q = putsOf ops := by
    simpa [qrun] using qrun_account ops {}
  exact ⟨h, fun he => by rwa [he, List.append_nil] at h⟩

example :
    let ops := (List.range 40).map QOp.put ++ List.replicate 41 QOp.get
    (qrun ops).got.filterMap id = List.range 40 ∧ (qrun ops).got.getLast? = some none := by
  decide +kernel

/-- **a bounded queue is not equivalent.**  With `deque(maxlen=cap)` semantics the
oldest waiting connections are silently discarded once more than `cap` are pending. -/
theorem C17_handoff_queue_bounded_loses :
    (((List.range 5).map QOp.put ++ List.replicate 5 QOp.get).foldl (bqstep 3) {}).got.filterMap id = [2, 3, 4] := by
  decide +kernel

end Px.Modes

namespace Px.Idle

/-- **C17 idle reaping in all modes (from C20).**  The only other place where the
drivers differ is *when* `is_inactive()` is asked: the threaded loop at the top of
every iteration, the executor every `period = 39` iterations of `_run_forever`, counted in ALL
loop iterations, busy or not.  So the modes agree on "a connection silent past the timeout is
dropped" up to a bounded delay: with iterations at most `D` apart, `t0 + timeout + D` in threaded
mode and `t0 + timeout + 40·D` in both threadless modes.  (`Modes.shiftRounds` is the script-level
form of the same correspondence.) -/
theorem C17_idle_reaping_bounded (timeout : Int) (hT : 0 ≤ timeout) (D : Int) (hD : 0 ≤ D)
    (t0 start : Int) (pre suf : List Ev) (hq : ∀ e ∈ suf, Quiet e) (hp : Paced D t0 suf) :
    (IdleAt (run (implCfg timeout true) (init start) pre) t0 →
      (∃ t, Ev.loopIter t ∈ suf ∧ t0 + timeout < t) →
      ∃ t, (run (implCfg timeout true) (init start) (pre ++ suf)).status = .reaped t ∧
        t ≤ t0 + timeout + D) ∧
    (IdleAt (run (implCfg timeout false) (init start) pre) t0 →
      (∃ t, Ev.loopIter t ∈ suf ∧ t0 + timeout + 40 * D < t + D) →
      ∃ t, (run (implCfg timeout false) (init start) (pre ++ suf)).status = .reaped t ∧
        t ≤ t0 + timeout + 40 * D) ∧
    period (implCfg timeout false) = 39 :=
  ⟨fun hi hr => C20_bound_threaded (t0 := t0) (implCfg timeout true) rfl hT D hD start pre suf hi hq hp hr,
   fun hi hr => C20_bound_threadless_impl (t0 := t0) timeout hT D hD start pre suf hi hq hp hr,
   C20_period_impl timeout⟩

end Px.Idle

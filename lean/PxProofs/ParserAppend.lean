import PxProofs.ParserLoop
/-!
# The HTTP parser fed `a ++ b` is the parser fed `a`, then `b`

For the loop (`go_append`): the loop on `u ++ b` equals the loop on `u` followed by the loop,
as the next `parse` call starts it, on what was left `++ b`.  Each phase hands over to the
next: start line (`go_append_line`) to headers (`go_append_hdr`) to body (`go_append_body`).
For `parse` (`parse_append`): a call on a non-empty piece is `go` from the state without byte
counter and buffer, put back afterwards (`parse_nonempty`, `putBack`).
-/
namespace Px.Parser

/-- The framing for which the answer of the real parser legitimately depends on
    segmentation: a response past its header block with neither
    `Transfer-Encoding: chunked` nor a `Content-Length` header, still reading
    (a close-delimited body). -/
def closeDelimited (q : Parser) : Bool :=
  q.ty == .response && (q.state == .headersComplete || q.state == .rcvingBody) &&
    !q.isChunked && !hasHeader q (b "content-length")

/-- feed `b` after a finished loop: what `parse` does on the next call -/
def resume (cfg : Cfg) (b : Bytes) (x : Except Err (Parser × Bytes)) : Except Err (Parser × Bytes) :=
  match x with
  | .error e => .error e
  | .ok R => go cfg R.1 (R.2 ++ b)

theorem go_closeDelimited (cfg : Cfg) {q : Parser} (x : Bytes) (hi : Inv q)
    (hs : q.state = .headersComplete ∨ q.state = .rcvingBody) (hc : q.isChunked = false)
    (he : q.contentExpected = false) (ht : q.ty = .response)
    (hh : hasHeader q (b "content-length") = false) :
    ∃ Q, go cfg q x = .ok (Q, []) ∧ closeDelimited Q = true := by
  refine ⟨{ q with state := .rcvingBody, body := some x }, ?_, ?_⟩
  · rw [go_at_body cfg x hi hs, processBody_neither hc he]; rfl
  · have h2 : hasHeader { q with state := .rcvingBody, body := some x } (b "content-length") = false := hh
    unfold closeDelimited
    rw [h2]
    simp [ht, hc]

theorem resume_ok (cfg : Cfg) (b : Bytes) (q : Parser) (r : Bytes) :
    resume cfg b (.ok (q, r)) = go cfg q (r ++ b) := rfl

theorem go_append_body (cfg : Cfg) {P : Parser} {u b : Bytes} (hi : Inv P)
    (hst : P.state = .headersComplete ∨ P.state = .rcvingBody)
    (hg : ∀ Q r, go cfg P (u ++ b) = .ok (Q, r) → closeDelimited Q = false) :
    go cfg P (u ++ b) = resume cfg b (go cfg P u) := by
  have hnc : P.state ≠ .complete := by rcases hst with h | h <;> simp [h]
  obtain ⟨hic, hfr⟩ := id hi
  by_cases hch : P.isChunked = true
  · -- chunked: the chunk decoder's own append lemma
    have hwf := chunk_getD_wf hic
    rw [go_at_body cfg _ hi hst, go_at_body cfg _ hi hst, processBody_chunked hch, processBody_chunked hch,
      Px.Chunk.parse_append (hwf.live u) b]
    cases hp : Px.Chunk.parse (P.chunk.getD Px.Chunk.init) u with
    | error e => rfl
    | ok t =>
      obtain ⟨c1, r1⟩ := t
      have hI1 := (processBody_inv hi hst (by rw [processBody_chunked hch, hp])).1
      by_cases hcc : c1.state = .complete
      · rw [Px.Chunk.andThen_complete hcc]
        simp only [hcc, beq_self_eq_true, if_true, Except.map, resume_ok]
        rw [go_done cfg _ rfl]
      · have hr1 : r1 = [] := by
          false_or_by_contra; rename_i h
          exact hcc ((Px.Chunk.parse_wf (hwf.live u) hp).2 h)
        subst hr1
        have hcf : (c1.state == .complete) = false := by simp [hcc]
        simp only [hcf, Bool.false_eq_true, if_false] at hI1
        rw [Px.Chunk.andThen_ok_nil]
        simp only [hcf, Bool.false_eq_true, if_false, Except.map, resume_ok, List.nil_append]
        rw [go_at_body cfg _ hI1 hst, processBody_chunked (p := { P with chunk := some c1 }) hch]
        rfl
  · simp only [Bool.not_eq_true] at hch
    by_cases hce : P.contentExpected = true
    · -- Content-Length: `need P` bytes are taken from `u`, the rest of them from `b`
      obtain ⟨_, _, _, _, _, hpos⟩ := need_spec hic hnc hce
      rw [go_at_body cfg _ hi hst, go_at_body cfg _ hi hst, processBody_cl hic hnc hch hce,
        processBody_cl hic hnc hch hce]
      simp only [Except.map, resume_ok]
      by_cases hle : need P ≤ u.length
      · have hle' : need P ≤ (u ++ b).length := by simp only [List.length_append]; omega
        rw [if_pos hle, if_pos hle', List.take_append_of_le_length hle, List.drop_append_of_le_length hle,
          go_done cfg _ rfl]
      · have htu : u.take (need P) = u := List.take_of_length_le (by omega)
        have hdu : u.drop (need P) = [] := List.drop_eq_nil_of_le (by omega)
        have hI1 := (processBody_inv hi hst (processBody_cl hic hnc hch hce u)).1
        rw [if_neg hle, htu] at hI1
        rw [if_neg hle, htu, hdu]
        rw [List.nil_append, go_at_body cfg _ hI1 (.inr rfl), processBody_cl hI1.1 (by simp) hch hce,
          need_append, List.take_append, List.drop_append, htu, hdu]
        have hc : (need P ≤ (u ++ b).length) ↔ (need P - u.length ≤ b.length) := by
          simp only [List.length_append]; omega
        simp only [Except.map, hc, Option.getD_some, List.append_assoc, List.nil_append]
    · simp only [Bool.not_eq_true] at hce
      exfalso
      rcases hfr hst with h | h | ⟨hty, hh⟩
      · simp [hch] at h
      · simp [hce] at h
      · obtain ⟨Q, hgo, hcd⟩ := go_closeDelimited cfg (u ++ b) hi hst hch hce hty hh
        rw [hg Q _ hgo] at hcd
        cases hcd

theorem go_append_hdr (cfg : Cfg) {P : Parser} {u b : Bytes} (hi : Inv P)
    (hst : P.state = .lineRcvd ∨ P.state = .rcvingHeaders) (hb : b ≠ [])
    (hg : ∀ Q r, go cfg P (u ++ b) = .ok (Q, r) → closeDelimited Q = false) :
    go cfg P (u ++ b) = resume cfg b (go cfg P u) := by
  have hnh : P.state ≠ .headersComplete := by rcases hst with h | h <;> simp [h]
  have hW := go_at_hdr cfg (u ++ b) hi hst
  rw [go_at_hdr cfg u hi hst]
  have happ := processHeaders_append (u.length + 1) ((u ++ b).length + 1) P u b hnh
    (by omega) (by omega) hb
  cases hp : processHeaders (u.length + 1) P u with
  | error e => rw [hW, happ, hp]; rfl
  | ok t =>
    obtain ⟨Q1, m1, r1⟩ := t
    rw [hp] at happ
    obtain ⟨hi1, hc1⟩ := processHeaders_spec _ hst hi.1 (by omega) hp
    simp only [Except.map]
    rcases hc1 with ⟨hQ, hm⟩ | ⟨hQ, hm, hsp⟩
    · rw [happ.trans (if_pos hQ)] at hW
      simp only [Except.map] at hW
      by_cases hexp : (Q1.contentExpected || Q1.isChunked) = true
      · have ep : ∀ m r, post (Q1, m, r) = (Q1, m, r) := fun m r => post_id m r (by simp [hQ]) (fun _ => hexp)
        have hI1 : Inv Q1 := ⟨hi1, fun _ => by
          rcases Bool.or_eq_true_iff.1 hexp with h | h
          · exact .inr (.inl h)
          · exact .inl h⟩
        rw [ep, next_go] at hW
        rw [ep, hW]
        by_cases hr : r1 = []
        · subst hr
          have : m1 = false := by simp [hm]
          subst this
          rw [next_stop cfg _ (.inl rfl), resume_ok]
        · have : m1 = true := by simp [hm, hr]
          subst this
          rw [next_go]
          exact go_append_body cfg hI1 (.inl hQ) (fun Q r h => hg Q r (hW.trans h))
      · rw [Bool.not_eq_true, Bool.or_eq_false_iff] at hexp
        obtain ⟨hce, hch⟩ := hexp
        by_cases hB : Q1.ty = .request ∨ hasHeader Q1 (Px.b "content-length") = true
        · have ep : ∀ m r, post (Q1, m, r) = ({ Q1 with state := .complete }, m, r) :=
            fun m r => post_complete m r hQ hce hch (.inr hB)
          rw [ep, next_stop cfg _ (.inr rfl)] at hW
          rw [ep, hW, next_stop cfg _ (.inr rfl), resume_ok, go_done cfg _ rfl]
        · exfalso
          obtain ⟨hty, hh⟩ := not_or.1 hB
          replace hty : Q1.ty = .response := by
            cases h : Q1.ty with
            | request => exact absurd h hty
            | response => rfl
          rw [Bool.not_eq_true] at hh
          have hne : (r1 ++ b).isEmpty = false := by simp [hb]
          have ep : post (Q1, true, r1 ++ b) = (Q1, true, r1 ++ b) := by
            unfold post
            simp [hQ, hce, hch, hty, hh, hne]
          have hI1 : Inv Q1 := ⟨hi1, fun _ => .inr (.inr ⟨hty, hh⟩)⟩
          rw [ep, next_go] at hW
          obtain ⟨Q, hgo, hcd⟩ := go_closeDelimited cfg (r1 ++ b) hI1 (.inl hQ) hch hce hty hh
          rw [hg Q _ (hW.trans hgo)] at hcd
          cases hcd
    · have hnq : Q1.state ≠ .headersComplete := by rcases hQ with h | h <;> simp [h]
      have hI1 : Inv Q1 := ⟨hi1, fun h => by
        rcases h with h | h <;> rcases hQ with h' | h' <;> simp [h'] at h⟩
      subst hm
      have ep : post (Q1, false, r1) = (Q1, false, r1) :=
        post_id _ _ (fun _ _ h => by rw [h] at hsp; simp [CRLF, splitCRLF] at hsp) (fun h => absurd h hnq)
      rw [ep, next_stop cfg _ (.inl rfl), resume_ok, go_at_hdr cfg (r1 ++ b) hI1 hQ, hW, happ.trans (if_neg hnq)]

/-- after the start line: the header-less-response special case of `parse` agrees with
    running the header automaton on the same bytes -/
theorem next_post_lineRcvd (cfg : Cfg) {Q1 : Parser} (hs : Q1.state = .lineRcvd) (hi1 : InvCore Q1)
    (x : Bytes) : next cfg (post (Q1, true, x)) = go cfg Q1 x := by
  obtain ⟨hce, hch, _⟩ := hi1.line (by simp [hs, PState.num])
  by_cases hx : (Q1.ty == .response && x == CRLF) = true
  · simp only [Bool.and_eq_true, beq_iff_eq] at hx
    obtain ⟨hty, rfl⟩ := hx
    have hI1 := inv_of_lineRcvd hi1 hs
    have hsp : splitCRLF CRLF = some ([], []) := rfl
    have hph : processHeaders (CRLF.length + 1) Q1 CRLF =
        .ok ({ Q1 with state := .headersComplete }, false, []) := by
      rw [processHeaders_succ, hsp]; simp only [hdrStep_blank (.inl hs)]; rfl
    rw [post_statusLine _ hs hty, next_stop cfg _ (.inr rfl), go_at_hdr cfg _ hI1 (.inl hs), hph]
    simp only [Except.map]
    rw [post_complete (q := { Q1 with state := .headersComplete }) _ _ rfl hce hch (.inl rfl),
      next_stop cfg _ (.inl rfl)]
  · rw [post_id _ _ (fun _ hty hx' => hx (by simp [hty, hx'])) (by simp [hs]), next_go]

theorem go_append_line (cfg : Cfg) {P : Parser} {u b : Bytes} (hi : Inv P)
    (hst : P.state = .initialized) (hb : b ≠ [])
    (hg : ∀ Q r, go cfg P (u ++ b) = .ok (Q, r) → closeDelimited Q = false) :
    go cfg P (u ++ b) = resume cfg b (go cfg P u) := by
  have hW := go_at_start cfg (u ++ b) hi hst
  rw [go_at_start cfg u hi hst]
  cases hsp : splitCRLF u with
  | none =>
    simp only [Except.map]
    rw [post_id _ _ (by simp [hst]) (by simp [hst]), next_stop cfg _ (.inl rfl), resume_ok]
  | some pr =>
    obtain ⟨line, rest⟩ := pr
    rw [splitCRLF_append_some hsp b] at hW
    simp only at hW ⊢
    cases hl : lineStep cfg P line with
    | error e => rw [hW, hl]; rfl
    | ok Q1 =>
      obtain ⟨hs1, hI1⟩ := lineStep_inv hi.1 hst hl
      have hi1 := hI1.1
      have hne : (rest ++ b).isEmpty = false := by simp [hb]
      rw [hl] at hW
      simp only [Except.map, hne, Bool.not_false] at hW ⊢
      rw [next_post_lineRcvd cfg hs1 hi1] at hW
      rw [hW]
      by_cases hr : rest = []
      · subst hr
        simp only [List.isEmpty_nil, Bool.not_true]
        rw [post_id _ _ (fun _ _ h => by simp [CRLF] at h) (by simp [hs1]), next_stop cfg _ (.inl rfl), resume_ok]
      · have : rest.isEmpty = false := by simp [hr]
        simp only [this, Bool.not_false]
        rw [next_post_lineRcvd cfg hs1 hi1]
        exact go_append_hdr cfg hI1 (.inl hs1) hb (fun Q r h => hg Q r (hW.trans h))

theorem go_append (cfg : Cfg) {P : Parser} {u b : Bytes} (hi : Inv P) (hb : b ≠ [])
    (hg : ∀ Q r, go cfg P (u ++ b) = .ok (Q, r) → closeDelimited Q = false) :
    go cfg P (u ++ b) = resume cfg b (go cfg P u) := by
  cases hst : P.state with
  | initialized => exact go_append_line cfg hi hst hb hg
  | lineRcvd => exact go_append_hdr cfg hi (.inl hst) hb hg
  | rcvingHeaders => exact go_append_hdr cfg hi (.inr hst) hb hg
  | headersComplete => exact go_append_body cfg hi (.inl hst) hg
  | rcvingBody => exact go_append_body cfg hi (.inr hst) hg
  | complete => rw [go_done cfg _ hst, go_done cfg _ hst, resume_ok, go_done cfg _ hst]

/-- resting states: invariant + a present buffer is non-empty (as `parse` leaves it) -/
def WF (p : Parser) : Prop := Inv p ∧ ∀ bf, p.buffer = some bf → bf ≠ []

theorem wf_init (ty : PType) : WF (init ty) := ⟨inv_init ty, fun bf h => by simp [init] at h⟩

theorem inv_setTB {p : Parser} (t : Nat) (bf : Option Bytes) (h : Inv p) : Inv (setTB t bf p) :=
  ⟨⟨h.1.chunkWF, h.1.clOk, h.1.bodyLt, h.1.early, h.1.line⟩, h.2⟩

theorem inv_of_setTB {p : Parser} {t : Nat} {bf : Option Bytes} (h : Inv (setTB t bf p)) : Inv p :=
  inv_setTB (p := setTB t bf p) p.totalSize p.buffer h

theorem loop_keeps (cfg : Cfg) (f : Nat) {p q : Parser} {more : Bool} {u r : Bytes}
    (h : loop cfg f p more u = .ok (q, r)) : setTB p.totalSize p.buffer q = q := by
  have h1 := loop_setTB cfg p.totalSize p.buffer f p more u
  have h2 : setTB p.totalSize p.buffer p = p := rfl
  rw [h2, h] at h1
  simp only [Except.map, Prod.map, id, Except.ok.injEq, Prod.mk.injEq, and_true] at h1
  exact h1.symm

/-- the loop's result `R` with the byte counter `t` and the unconsumed bytes written back: what `parse` returns -/
def putBack (t : Nat) (R : Parser × Bytes) : Parser := finish (setTB t none R.1, R.2)

theorem bufBytes_putBack (t : Nat) (R : Parser × Bytes) : bufBytes (putBack t R) = R.2 := by
  unfold bufBytes putBack finish
  cases R.2 <;> rfl

theorem putBack_totalSize (t : Nat) (R : Parser × Bytes) : (putBack t R).totalSize = t := rfl

theorem setTB_putBack (t : Nat) (R : Parser × Bytes) : setTB 0 none (putBack t R) = setTB 0 none R.1 := rfl

theorem finish_buffer_ne (q : Parser) (r : Bytes) : ∀ bf, (finish (q, r)).buffer = some bf → bf ≠ [] := by
  intro bf h
  unfold finish at h
  cases r with
  | nil => simp at h
  | cons c cs => simp at h; rw [← h]; simp

theorem parse_nonempty (cfg : Cfg) (p : Parser) {x : Bytes} (hx : x ≠ []) :
    parse cfg p x = (go cfg (setTB 0 none p) (bufBytes p ++ x)).map (putBack (p.totalSize + x.length)) := by
  rw [parse_eq]
  have hx1 : decide (x.length > 0) = true := by simpa using List.length_pos_iff.2 hx
  rw [hx1]
  have : ({ p with totalSize := p.totalSize + x.length, buffer := none } : Parser) =
      setTB (p.totalSize + x.length) none (setTB 0 none p) := rfl
  rw [this, loop_setTB]
  unfold go
  cases loop cfg ((bufBytes p ++ x).length + 8) (setTB 0 none p) true (bufBytes p ++ x) with
  | error e => rfl
  | ok R => rfl

theorem buffer_carry (cfg : Cfg) (p : Parser) (bf x : Bytes) (hb : p.buffer = some bf) (hx : x ≠ []) :
    parse cfg p x =
      (parse cfg { p with buffer := none } (bf ++ x)).map (setTotal (p.totalSize + x.length)) := by
  have h1 : bufBytes p = bf := by simp [bufBytes, hb]
  rw [parse_nonempty cfg p hx, parse_nonempty cfg _ (by simp [hx] : bf ++ x ≠ []), h1]
  show _ = (Except.map _ (go cfg (setTB 0 none p) (bf ++ x))).map _
  cases go cfg (setTB 0 none p) (bf ++ x) <;> rfl

theorem parse_nil (cfg : Cfg) {p : Parser} (hb : ∀ bf, p.buffer = some bf → bf ≠ []) :
    parse cfg p [] = .ok p := by
  -- writing the buffered bytes back gives the buffer itself, since it is not `some []`
  have hbuf : (if (bufBytes p).isEmpty then none else some (bufBytes p)) = p.buffer := by
    unfold bufBytes
    cases h : p.buffer with
    | none => rfl
    | some bf =>
      cases bf with
      | nil => exact absurd rfl (hb _ h)
      | cons _ _ => rfl
  have h0 : decide (([] : Bytes).length > 0) = false := rfl
  rw [parse_eq, h0, loop_done cfg _ (.inl rfl)]
  simp only [Except.map, finish, List.append_nil, List.length_nil, Nat.add_zero, hbuf]

theorem parse_buffer_ne (cfg : Cfg) {p q : Parser} {x : Bytes} (h : parse cfg p x = .ok q) :
    ∀ bf, q.buffer = some bf → bf ≠ [] := by
  obtain ⟨R, _, rfl⟩ := map_eq_ok (parse_eq cfg p x ▸ h)
  exact finish_buffer_ne R.1 R.2

theorem parse_wf (cfg : Cfg) {p p' : Parser} {x : Bytes} (hw : WF p) (h : parse cfg p x = .ok p') : WF p' :=
  ⟨parse_preserves cfg (fun t bf _ hi => inv_setTB t bf hi) (fun hi hc hs => (stepOnce_inv cfg hi hc hs).1) hw.1 h,
   parse_buffer_ne cfg h⟩

/-- Full parser state, errors included.  `hg`: unless the whole input ends inside a close-delimited
    response body. -/
theorem parse_append (cfg : Cfg) {p : Parser} (a b : Bytes) (hw : WF p)
    (hg : ∀ q, parse cfg p (a ++ b) = .ok q → closeDelimited q = false) :
    parse cfg p (a ++ b) = (parse cfg p a).bind (fun p' => parse cfg p' b) := by
  by_cases ha : a = []
  · subst ha
    rw [parse_nil cfg hw.2]; rfl
  by_cases hb : b = []
  · subst hb
    rw [List.append_nil]
    cases hp : parse cfg p a with
    | error e => rfl
    | ok p' => exact (parse_nil cfg (parse_wf cfg hw hp).2).symm
  have hab : a ++ b ≠ [] := by simp [ha]
  have hga : ∀ Q r, go cfg (setTB 0 none p) (bufBytes p ++ a ++ b) = .ok (Q, r) →
      closeDelimited Q = false := fun Q r h =>
    hg (putBack (p.totalSize + (a ++ b).length) (Q, r))
      (by rw [parse_nonempty cfg p hab, ← List.append_assoc, h]; rfl)
  rw [parse_nonempty cfg p hab, ← List.append_assoc,
    go_append cfg (inv_setTB 0 none hw.1) hb hga, parse_nonempty cfg p ha]
  cases hgo : go cfg (setTB 0 none p) (bufBytes p ++ a) with
  | error e => rfl
  | ok R =>
    -- the second call starts from the state the first one left: same base, `R.2` buffered
    show (go cfg R.1 (R.2 ++ b)).map _ = parse cfg (putBack _ R) b
    have hk : setTB 0 none R.1 = R.1 := loop_keeps cfg _ hgo
    rw [parse_nonempty cfg _ hb, bufBytes_putBack, setTB_putBack, putBack_totalSize, hk,
      List.length_append, Nat.add_assoc]

theorem parseAll_flatten (cfg : Cfg) {p : Parser} (segs : List Bytes) (hw : WF p)
    (hg : ∀ q, parse cfg p segs.flatten = .ok q → closeDelimited q = false) :
    parseAll cfg p segs = parse cfg p segs.flatten := by
  induction segs generalizing p with
  | nil => rw [List.flatten_nil, parse_nil cfg hw.2]; rfl
  | cons a rest ih =>
    rw [List.flatten_cons] at hg ⊢
    have happ := parse_append cfg a rest.flatten hw hg
    rw [happ, parseAll]
    cases hp : parse cfg p a with
    | error e => rfl
    | ok p' =>
      simp only [Except.bind]
      apply ih (parse_wf cfg hw hp)
      intro q hq
      apply hg q
      rw [happ, hp]; exact hq

theorem stepOnce_ty (cfg : Cfg) {p q : Parser} {u r : Bytes} {m : Bool}
    (h : stepOnce cfg p u = .ok (q, m, r)) : q.ty = p.ty := by
  rcases stepOnce_frame cfg h with hf | ⟨_, q1, hl, hf⟩
  · exact hf.ty
  · exact hf.ty.trans (lineStep_spec hl).ty

theorem parse_ty (cfg : Cfg) {p q : Parser} {x : Bytes} (h : parse cfg p x = .ok q) : q.ty = p.ty :=
  parse_preserves cfg (I := fun q => q.ty = p.ty) (fun _ _ _ hi => hi)
    (fun hi _ hs => (stepOnce_ty cfg hs).trans hi) rfl h

theorem closeDelimited_request {q : Parser} (h : q.ty = .request) : closeDelimited q = false := by
  simp [closeDelimited, h]
end Px.Parser

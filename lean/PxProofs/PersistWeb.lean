import PxProofs.PersistSeg
/-!
# C04: the web server on a stream of requests, any packing

`wrun_stream`: on segments that cut a routed first request (`WebFirstOk`) and keep-alive follow-ups anywhere,
`wrun` ends in `WebDone`: the route was called once per request, in order, with the one-piece parses
up to byte counter and leftover (`norm`).
-/
namespace Px.Persist
open Px Px.Parser

def norm (P : Parser) : Parser := { P with totalSize := 0, buffer := none }

theorem norm_withTotal (P : Parser) (n : Nat) (b : Option Bytes) :
    norm ({ (withTotal P n) with buffer := b }) = norm P := rfl

theorem norm_withTotal' (P : Parser) (n : Nat) : norm (withTotal P n) = norm P := rfl

theorem wst_eta_phase (s : WSt) : ({ s with phase := s.phase } : WSt) = s := by cases s; rfl

def wstepL (cfg : WCfg) (s : WSt) (P : Parser) : WSt :=
  { s with out := s.out ++ [cfg.respond (s.route.getD 0) P], calls := s.calls ++ [(s.route.getD 0, P)] }

theorem web_good (cfg : WCfg) (P : Parser) (hk : isKeepAlive P = true) (s : WSt) (n : Nat) :
    (webHooks cfg).complete s (withTotal P n) = .next (wstepL cfg s (withTotal P n)) none := by
  have : isKeepAlive (withTotal P n) = true := hk
  simp only [webHooks, this, Bool.not_true, Bool.false_eq_true, if_false, wstepL]

theorem foldl_wstep (cfg : WCfg) (k : Nat) (Ps : List Parser) (s : WSt) (hr : s.route = some k) :
    Ps.foldl (wstepL cfg) s =
      { s with out := s.out ++ Ps.map (cfg.respond k), calls := s.calls ++ Ps.map (fun P => (k, P)) } := by
  induction Ps generalizing s with
  | nil => simp
  | cons P Ps ih =>
    rw [List.foldl_cons, ih (wstepL cfg s P) (by simpa [wstepL] using hr)]
    simp [wstepL, hr, List.append_assoc]

def WebFirstOk (cfg : WCfg) (x : Bytes) (P : Parser) (k : Nat) : Prop :=
  oneReq x = some P ∧ isWebRequest P = true ∧ isWebsocketUpgrade P = false ∧
  Px.Url.utf8Valid (webPath P) = true ∧ tryRoute cfg (webPath P) = some k ∧ isKeepAlive P = true

def WebLaterAll (tl : Reqs) : Prop := ∀ r ∈ tl, oneReq r.1 = some r.2 ∧ isKeepAlive r.2 = true

theorem wrun_later (cfg : WCfg) (k : Nat) (segs : List Bytes) {tl : Reqs}
    (hl : WebLaterAll tl) (hflat : segs.flatten = stream tl) (s : WSt) (hph : s.phase = .routed)
    (hk : isKeepAlive s.request = true) (hr : s.route = some k) :
    ∃ ns : List Nat, ns.length = tl.length ∧
      wrun cfg (s, none) segs =
        ({ s with out := s.out ++ (handed tl ns).map (cfg.respond k),
                  calls := s.calls ++ (handed tl ns).map (fun P => (k, P)) }, none) := by
  obtain ⟨ns, hns, h⟩ := loopSegs_all (webHooks cfg) (wstepL cfg)
    (fun s => s.phase = .routed ∧ isKeepAlive s.request = true) (fun _ _ _ _ => rfl) (wrun cfg)
    (fun s pl x xs s' pl' hI hp => by
      -- in a routed keep-alive state `wseg` is the loop call
      have : wseg cfg (s, pl) x = (s', pl') := by
        simp only [wseg, hI.1, wdata, hI.2, Bool.not_true, Bool.false_eq_true, if_false, hp, endPhase]
      rw [wrun, this])
    segs tl (fun r hr' => (hl r hr').1) (fun r hr' s n hI => ⟨web_good cfg r.2 (hl r hr').2 s n, hI⟩)
    [] none (.idle tl) (by simpa using hflat) s ⟨hph, hk⟩
  exact ⟨ns, hns, by rw [h, foldl_wstep cfg k _ s hr]; rfl⟩

structure WebDone (cfg : WCfg) (k : Nat) (P₁ : Parser) (tl : Reqs) (S : WSt × Option Parser) : Prop where
  routed : S.1.phase = .routed
  idle : S.2 = none
  ex : ∃ Ps' : List Parser, Ps'.map norm = (P₁ :: tl.map (·.2)).map norm ∧
    S.1.calls = Ps'.map (fun P => (k, P)) ∧ S.1.out = Ps'.map (cfg.respond k)

theorem wrun_stream (cfg : WCfg) (x₁ : Bytes) (P₁ : Parser) (k : Nat) (tl : Reqs)
    (h1 : WebFirstOk cfg x₁ P₁ k) (hl : WebLaterAll tl)
    (segs : List Bytes) (hne : ∀ seg ∈ segs, seg ≠ []) (hflat : segs.flatten = x₁ ++ stream tl) :
    WebDone cfg k P₁ tl (wrun cfg ({}, none) segs) := by
  obtain ⟨ho, hw, hws, hutf, hr, hka⟩ := h1
  refine first_request ho (stream tl) (M := fun p segs => WebDone cfg k P₁ tl (wrun cfg ({ request := p }, none) segs))
    ?_ ?_ segs hne hflat
  · intro p seg segs p' hp' hnc ih
    have : wseg cfg ({ request := p }, none) seg = ({ request := p' }, none) := by
      simp only [wseg, hp', hnc, if_true]
    rwa [wrun, this]
  · intro p seg segs n b hp' hnc hrest
    -- what `wseg` asks of the completed request does not depend on byte counter and leftover
    have cw : isWebRequest { withTotal P₁ n with buffer := b } = true := hw
    have cws : isWebsocketUpgrade { withTotal P₁ n with buffer := b } = false := hws
    have cutf : Px.Url.utf8Valid (webPath { withTotal P₁ n with buffer := b }) = true := hutf
    have cr : tryRoute cfg (webPath { withTotal P₁ n with buffer := b }) = some k := hr
    -- what followed the request in its segment is one more segment
    let s1 : WSt := { phase := .routed, request := { withTotal P₁ n with buffer := none }, route := some k,
                      out := [cfg.respond k { withTotal P₁ n with buffer := b }],
                      calls := [(k, { withTotal P₁ n with buffer := b })] }
    have hw1 : wrun cfg ({ request := p }, none) (seg :: segs) = wrun cfg (s1, none) (b.toList ++ segs) := by
      rw [wrun]
      simp only [wseg, hp', hnc, Bool.false_eq_true, if_false, cw, cws, Bool.not_true, cutf, cr]
      cases b <;> rfl
    obtain ⟨ns, hns, hrun⟩ := wrun_later cfg k _ hl hrest s1 rfl hka rfl
    rw [hw1, hrun]
    refine ⟨rfl, rfl, { withTotal P₁ n with buffer := b } :: handed tl ns, ?_, rfl, rfl⟩
    rw [List.map_cons, List.map_cons, norm_withTotal, handed_map norm (fun _ _ => rfl) tl ns hns, List.map_map]
    rfl

end Px.Persist

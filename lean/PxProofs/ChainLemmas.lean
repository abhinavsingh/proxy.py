import PxModel.PluginChain
/-! What C08 / C09 observe of a log (`connects`, `upBytes`, `clItems`, `noLife`, `countCall`) and how the model's
    functions act on it: a chain's log is one call per element of `inputs` (`chain_log`), every event keeps `Kept`,
    a `Quiet` connection shows nothing more to a peer.  Also the specification `credOk` of accepted credentials, and
    what the statements about header values and load order stand on: the laws of the ordered dict (`dGet?`, `dSet`,
    `dDel`), `splitWs` of a value of two words, `processHeader` as a `dSet` at `lineKey`, and `loadBucket`, which
    only appends to what it is given, and nothing twice. -/
namespace Px.Chain
open Px

section dict
variable {κ ν : Type} [BEq κ] [LawfulBEq κ]
set_option linter.unusedSectionVars false

theorem dGet_dSet_same (d : List (κ × ν)) (k : κ) (v : ν) : dGet? (dSet d k v) k = some v := by
  induction d with
  | nil => simp [dSet, dGet?]
  | cons e rest ih =>
    simp only [dSet]
    split <;> simp [dGet?, *]

theorem dGet_dSet_other (d : List (κ × ν)) (k k' : κ) (v : ν) (h : k' ≠ k) :
    dGet? (dSet d k' v) k = dGet? d k := by
  induction d with
  | nil => simp [dSet, dGet?, h]
  | cons e rest ih =>
    simp only [dSet]
    split
    · rename_i h0
      cases eq_of_beq h0
      simp [dGet?, h]
    · simp [dGet?, ih]

theorem dHas_dDel_same (d : List (κ × ν)) (k : κ) : dHas (dDel d k) k = false := by
  simp [dHas, dDel]

theorem dHas_dDel_of_not (d : List (κ × ν)) (k k' : κ) (h : dHas d k = false) :
    dHas (dDel d k') k = false := by
  simp only [dHas, dDel, List.any_eq_false, List.mem_filter] at *
  intro e he
  exact h e he.1

theorem dHas_dSet_other (d : List (κ × ν)) (k k' : κ) (v : ν) (h : k' ≠ k) :
    dHas (dSet d k' v) k = dHas d k := by
  induction d with
  | nil => simp [dSet, dHas, h]
  | cons e rest ih =>
    simp only [dSet]
    split
    · simp [dHas]
    · simp only [dHas] at ih
      simp [dHas, ih]

theorem dGet_none_of_not_has (d : List (κ × ν)) (k : κ) (h : dHas d k = false) : dGet? d k = none := by
  induction d with
  | nil => rfl
  | cons e rest ih =>
    obtain ⟨k0, v0⟩ := e
    have ⟨(h1 : (k0 == k) = false), h2⟩ := Bool.or_eq_false_iff.1 h
    rw [dGet?, h1]
    exact ih h2

theorem mem_dSet_key (d : List (κ × ν)) (k : κ) (v : ν) (e : κ × ν) (he : e ∈ dSet d k v) :
    e.1 = k ∨ ∃ e' ∈ d, e'.1 = e.1 := by
  induction d with
  | nil => exact Or.inl (by cases List.mem_singleton.1 he; rfl)
  | cons e0 rest ih =>
    obtain ⟨k0, v0⟩ := e0
    simp only [dSet] at he
    split at he <;> rename_i h0 <;> rcases List.mem_cons.1 he with rfl | he
    · exact Or.inl (eq_of_beq h0)
    · exact Or.inr ⟨e, List.mem_cons_of_mem _ he, rfl⟩
    · exact Or.inr ⟨_, List.mem_cons_self, rfl⟩
    · exact (ih he).imp_right fun ⟨e', he', hk⟩ => ⟨e', List.mem_cons_of_mem _ he', hk⟩

end dict

def connOf : Eff → Option (Bytes × Nat)
  | .connect h p => some (h, p)
  | _ => none

def upOfE : Eff → Option Bytes
  | .upQ x => some x
  | _ => none

def connects (l : Log) : List (Bytes × Nat) := l.filterMap connOf
def upBytes (l : Log) : List Bytes := l.filterMap upOfE

/-- every hook but the two per-connection lifecycle callbacks -/
def reqHook : Hook → Bool
  | .accessLog => false
  | .upClose => false
  | _ => true

/-- lifecycle effects: `on_access_log`, `on_upstream_connection_close`, default access log -/
def lifeE : Eff → Bool
  | .call _ h _ => !reqHook h
  | .defaultLog _ => true
  | _ => false

def noLife (l : Log) : Bool := l.all (fun e => !lifeE e)

def quietE : Eff → Bool
  | .clSent _ => true
  | .teardown => true
  | _ => false

def countCall (i : Nat) (h : Hook) (l : Log) : Nat :=
  l.countP (fun e => match e with
    | .call j h' _ => j == i && h' == h
    | _ => false)

/-- effects a peer gets to see -/
def wireE : Eff → Bool
  | .connect _ _ | .upQ _ | .clQ _ => true
  | _ => false

theorem obs_nil (l : Log) (h : ∀ e ∈ l, wireE e = false) : connects l = [] ∧ upBytes l = [] ∧ clItems l = [] := by
  induction l with
  | nil => exact ⟨rfl, rfl, rfl⟩
  | cons e l ih =>
    have he := h e List.mem_cons_self
    have ih := ih fun x hx => h x (List.mem_cons_of_mem _ hx)
    cases e with
    | connect _ _ | upQ _ | clQ _ => cases he
    | _ => exact ih

theorem lifeE_noWire (e : Eff) (h : lifeE e = true) : wireE e = false := by
  cases e with
  | call _ _ _ | defaultLog _ => rfl
  | _ => cases h

theorem quietE_noWire (e : Eff) (h : quietE e = true) : wireE e = false := by
  cases e with
  | clSent _ | teardown => rfl
  | _ => cases h

@[simp] theorem connects_append (a c : Log) : connects (a ++ c) = connects a ++ connects c := by
  simp [connects]
@[simp] theorem upBytes_append (a c : Log) : upBytes (a ++ c) = upBytes a ++ upBytes c := by
  simp [upBytes]
@[simp] theorem noLife_append (a c : Log) : noLife (a ++ c) = (noLife a && noLife c) := by
  simp [noLife]
@[simp] theorem countCall_append (i : Nat) (h : Hook) (a c : Log) :
    countCall i h (a ++ c) = countCall i h a + countCall i h c := by
  simp [countCall]
@[simp] theorem clItems_append (a c : Log) : clItems (a ++ c) = clItems a ++ clItems c := by
  induction a with
  | nil => rfl
  | cons e rest ih =>
    cases e with
    | clQ x => exact congrArg (x :: ·) ih
    | _ => exact ih

@[simp] theorem connects_cons (e : Eff) (l : Log) : connects (e :: l) = (connOf e).toList ++ connects l := by
  cases h : connOf e <;> simp [connects, h]
@[simp] theorem upBytes_cons (e : Eff) (l : Log) : upBytes (e :: l) = (upOfE e).toList ++ upBytes l := by
  cases h : upOfE e <;> simp [upBytes, h]
@[simp] theorem noLife_cons (e : Eff) (l : Log) : noLife (e :: l) = (!lifeE e && noLife l) := by
  simp [noLife]
@[simp] theorem connects_nil : connects [] = [] := rfl
@[simp] theorem upBytes_nil : upBytes [] = [] := rfl
@[simp] theorem clItems_nil : clItems [] = [] := rfl
@[simp] theorem noLife_nil : noLife [] = true := rfl
@[simp] theorem countCall_nil (i : Nat) (h : Hook) : countCall i h [] = 0 := rfl

section chain
variable {α : Type}

/-- the values handed to the plugins of a chain, in order -/
def inputs (f : Plugin → α → Res α) : List Plugin → α → List α
  | [], _ => []
  | p :: ps, x =>
    x :: (match f p x with
      | .pass y => inputs f ps y
      | _ => [])

def mkCalls (h : Hook) (w : α → Arg) (i : Nat) (xs : List α) : Log :=
  (xs.zipIdx i).map fun p => Eff.call p.2 h (w p.1)

variable (h : Hook) (f : Plugin → α → Res α) (w : α → Arg) (i : Nat) (ps : List Plugin) (x : α)

theorem mkCalls_cons (xs : List α) :
    mkCalls h w i (x :: xs) = Eff.call i h (w x) :: mkCalls h w (i + 1) xs := rfl

theorem chain_log : (chain h f w i ps x).1 = mkCalls h w i (inputs f ps x) := by
  induction ps generalizing i x with
  | nil => rfl
  | cons p ps ih =>
    cases hf : f p x with
    | pass y => simp [chain, inputs, mkCalls_cons, hf, ih]
    | drop => simp [chain, inputs, mkCalls_cons, hf]; rfl
    | reject e => simp [chain, inputs, mkCalls_cons, hf]; rfl

theorem inputs_length_le : (inputs f ps x).length ≤ ps.length := by
  induction ps generalizing x with
  | nil => simp [inputs]
  | cons p ps ih =>
    cases hf : f p x with
    | pass y => simp [inputs, hf]; exact ih y
    | drop => simp [inputs, hf]
    | reject e => simp [inputs, hf]

theorem inputs_head (p : Plugin) : (inputs f (p :: ps) x)[0]? = some x := rfl

theorem inputs_step (k : Nat) (a c : α)
    (ha : (inputs f ps x)[k]? = some a) (hc : (inputs f ps x)[k + 1]? = some c) :
    ∃ p, ps[k]? = some p ∧ f p a = .pass c := by
  induction ps generalizing x k with
  | nil => cases ha
  | cons p ps ih =>
    cases hf : f p x with
    | pass y =>
      simp only [inputs, hf, List.getElem?_cons_succ] at ha hc
      cases k with
      | zero =>
        cases ps with
        | nil => cases hc
        | cons q qs =>
          cases ha; cases hc
          exact ⟨p, rfl, hf⟩
      | succ k => exact ih y k ha hc
    | drop => simp [inputs, hf] at hc
    | reject e => simp [inputs, hf] at hc

theorem inputs_lt (f : Plugin → α → Res α) (ps : List Plugin) (x : α) (k : Nat) (a : α)
    (ha : (inputs f ps x)[k]? = some a) : k < ps.length :=
  Nat.lt_of_lt_of_le (List.getElem?_eq_some_iff.1 ha).1 (inputs_length_le f ps x)

theorem mkCalls_length (xs : List α) : (mkCalls h w i xs).length = xs.length := by
  simp [mkCalls]

theorem mkCalls_get (xs : List α) (k : Nat) :
    (mkCalls h w i xs)[k]? = (xs[k]?).map (fun x => Eff.call (i + k) h (w x)) := by
  simp [mkCalls, List.getElem?_zipIdx]; rfl

theorem mem_mkCalls (xs : List α) (e : Eff) (he : e ∈ mkCalls h w i xs) :
    ∃ j a, e = .call j h a ∧ i ≤ j ∧ j < i + xs.length := by
  obtain ⟨⟨x, j⟩, hm, rfl⟩ := List.mem_map.1 he
  have := List.mem_zipIdx hm
  exact ⟨j, w x, rfl, this.1, this.2.1⟩

theorem chain_mem (e : Eff) (he : e ∈ (chain h f w i ps x).1) :
    ∃ j a, e = .call j h a ∧ i ≤ j ∧ j < i + ps.length := by
  rw [chain_log] at he
  obtain ⟨j, a, rfl, h1, h2⟩ := mem_mkCalls h w i _ e he
  have := inputs_length_le f ps x
  exact ⟨j, a, rfl, h1, by omega⟩

theorem chain_end :
    match (chain h f w i ps x).2 with
    | .done _ => (inputs f ps x).length = ps.length ∧
        ∀ (k : Nat) (a : α), (inputs f ps x)[k]? = some a → ∃ p c, ps[k]? = some p ∧ f p a = .pass c
    | .dropped a => ∃ k p, (inputs f ps x).length = k + 1 ∧ (inputs f ps x)[k]? = some a ∧ ps[k]? = some p ∧
        f p a = .drop
    | .raised e => ∃ k p a, (inputs f ps x).length = k + 1 ∧ (inputs f ps x)[k]? = some a ∧ ps[k]? = some p ∧
        f p a = .reject e := by
  induction ps generalizing i x with
  | nil => exact ⟨rfl, fun k a ha => nomatch ha⟩
  | cons p ps ih =>
    cases hf : f p x with
    | pass z =>
      have ih := ih (i + 1) z
      simp only [chain, inputs, hf]
      split <;> rename_i hc <;> simp only [hc] at ih
      · refine ⟨congrArg (· + 1) ih.1, fun k a ha => ?_⟩
        cases k with
        | zero => cases ha; exact ⟨p, z, rfl, hf⟩
        | succ k => exact ih.2 k a ha
      · obtain ⟨k, q, hl, hk, hq, hfq⟩ := ih
        exact ⟨k + 1, q, congrArg (· + 1) hl, hk, hq, hfq⟩
      · obtain ⟨k, q, a, hl, hk, hq, hfq⟩ := ih
        exact ⟨k + 1, q, a, congrArg (· + 1) hl, hk, hq, hfq⟩
    | drop => simp only [chain, inputs, hf]; exact ⟨0, p, rfl, rfl, rfl, hf⟩
    | reject e => simp only [chain, inputs, hf]; exact ⟨0, p, x, rfl, rfl, rfl, hf⟩

@[simp] theorem chain_obs :
    connects (chain h f w i ps x).1 = [] ∧ upBytes (chain h f w i ps x).1 = [] ∧ clItems (chain h f w i ps x).1 = [] :=
  obs_nil _ fun e he => by obtain ⟨j, a, rfl, _, _⟩ := chain_mem h f w i ps x e he; rfl

theorem noLife_chain (hh : reqHook h = true) : noLife (chain h f w i ps x).1 = true := by
  simp only [noLife, List.all_eq_true]
  intro e he
  obtain ⟨j, a, rfl, _, _⟩ := chain_mem h f w i ps x e he
  simp [lifeE, hh]

end chain

theorem resolve_mem (i : Nat) (ps : List Plugin) (host : Bytes) (port : Nat) (e : Eff)
    (he : e ∈ (resolveChain i ps host port).1) : ∃ j a, e = .call j .resolveDns a := by
  induction ps generalizing i with
  | nil => simp [resolveChain] at he
  | cons p ps ih =>
    simp only [resolveChain] at he
    split at he
    · simp only [List.mem_singleton] at he; exact ⟨_, _, he⟩
    · simp only [List.mem_cons] at he
      rcases he with he | he
      · exact ⟨_, _, he⟩
      · exact ih (i + 1) he

@[simp] theorem resolve_obs (i : Nat) (ps : List Plugin) (host : Bytes) (port : Nat) :
    connects (resolveChain i ps host port).1 = [] ∧ upBytes (resolveChain i ps host port).1 = [] ∧
      clItems (resolveChain i ps host port).1 = [] ∧ noLife (resolveChain i ps host port).1 = true := by
  have hc := resolve_mem i ps host port
  obtain ⟨h1, h2, h3⟩ := obs_nil _ fun e he => by obtain ⟨j, a, rfl⟩ := hc e he; rfl
  refine ⟨h1, h2, h3, List.all_eq_true.2 fun e he => ?_⟩
  obtain ⟨j, a, rfl⟩ := hc e he
  rfl

/-- the address `connect_upstream` dials -/
def dialTarget (ps : List Plugin) (r : Req) : Bytes :=
  if (resolveChain 0 ps r.host r.port).2.isEmpty then connectHost r.host else (resolveChain 0 ps r.host r.port).2

theorem connectUpstream_log (ps : List Plugin) (r : Req) (ok : Bool) :
    (connectUpstream ps r ok).1 =
      if r.host.isEmpty || r.port == 0 then []
      else (resolveChain 0 ps r.host r.port).1 ++ [Eff.connect (dialTarget ps r) r.port] :=
  apply_ite Prod.fst _ _ _

theorem connects_connectUpstream (ps : List Plugin) (r : Req) (ok : Bool) :
    connects (connectUpstream ps r ok).1 =
      if r.host.isEmpty || r.port == 0 then [] else [(dialTarget ps r, r.port)] := by
  rw [connectUpstream_log]; split <;> simp [connOf]

@[simp] theorem upBytes_connectUpstream (ps : List Plugin) (r : Req) (ok : Bool) :
    upBytes (connectUpstream ps r ok).1 = [] := by
  rw [connectUpstream_log]; split <;> simp [upOfE]

@[simp] theorem clItems_connectUpstream (ps : List Plugin) (r : Req) (ok : Bool) :
    clItems (connectUpstream ps r ok).1 = [] := by
  rw [connectUpstream_log]; split <;> simp [clItems]

@[simp] theorem noLife_connectUpstream (ps : List Plugin) (r : Req) (ok : Bool) :
    noLife (connectUpstream ps r ok).1 = true := by
  rw [connectUpstream_log]; split <;> simp [lifeE]

abbrev creqChain (ps : List Plugin) (x : Req) := chain .clientReq Plugin.clientReq Arg.req 0 ps x
abbrev beforeChain (ps : List Plugin) (x : Req) := chain .before Plugin.before Arg.req 0 ps x

theorem afterConnect_cases {P : Log → Prop} (cfg : Cfg) (ps : List Plugin) (up : Bool) (x : Req)
    (h0 : P (creqChain ps x).1)
    (hT : P ((creqChain ps x).1 ++ [.clQ Px.Gen.pkt_PROXY_TUNNEL_ESTABLISHED_RESPONSE_PKT]))
    (hF : ∀ y, P ((creqChain ps x).1 ++ [.upQ ((fwdFirst y).build cfg.disableHeaders)])) :
    P (afterConnect cfg ps up x).1 := by
  simp only [afterConnect]
  split
  · exact h0
  · exact h0
  · split
    · split
      · exact hT
      · exact hF _
    · exact h0

@[simp] theorem afterConnect_obs (cfg : Cfg) (ps : List Plugin) (up : Bool) (x : Req) :
    connects (afterConnect cfg ps up x).1 = [] ∧ noLife (afterConnect cfg ps up x).1 = true := by
  have h := noLife_chain .clientReq Plugin.clientReq Arg.req 0 ps x rfl
  refine afterConnect_cases (P := fun l => connects l = [] ∧ noLife l = true) cfg ps up x ?_ ?_ fun y => ?_ <;>
    simp [h, connOf, lifeE]

@[simp] theorem noLife_afterBefore (cfg : Cfg) (ps : List Plugin) (ok dc : Bool) (x : Req) :
    noLife (afterBefore cfg ps ok dc x).1 = true := by
  simp only [afterBefore]
  split
  · split <;> simp
  · simp

@[simp] theorem noLife_onRequestComplete (cfg : Cfg) (ps : List Plugin) (ok : Bool) (r : Req) :
    noLife (onRequestComplete cfg ps ok r).1 = true := by
  have h := noLife_chain .before Plugin.before Arg.req 0 ps r rfl
  simp only [onRequestComplete]
  split <;> simp [h]

@[simp] theorem tearReq_keeps (st : St) (l : Log) :
    (tearReq st l).1.dispatched = st.dispatched ∧ (tearReq st l).1.upstream = st.upstream ∧
      (tearReq st l).1.upgraded = st.upgraded := by
  unfold tearReq; split <;> exact ⟨rfl, rfl, rfl⟩

/-- the log gains at most a `teardown` -/
@[simp] theorem tearReq_log (st : St) (l : Log) :
    connects (tearReq st l).2 = connects l ∧ upBytes (tearReq st l).2 = upBytes l ∧
      clItems (tearReq st l).2 = clItems l ∧ noLife (tearReq st l).2 = noLife l := by
  unfold tearReq; split <;> simp [connOf, upOfE, clItems, lifeE]

theorem call_mem_tearReq (st : St) (l : Log) (j : Nat) (h : Hook) (a : Arg) :
    Eff.call j h a ∈ (tearReq st l).2 ↔ Eff.call j h a ∈ l := by
  unfold tearReq; split <;> simp

theorem tearReq_dead (st : St) (l : Log) : (tearReq st l).1.closing = true ∨ (tearReq st l).1.down = true := by
  unfold tearReq; split <;> simp

@[simp] theorem raise_keeps (st : St) (l : Log) (e : Exc) :
    (raise st l e).1.dispatched = st.dispatched ∧ (raise st l e).1.upstream = st.upstream ∧
      (raise st l e).1.upgraded = st.upgraded := by
  unfold raise; split <;> simp

@[simp] theorem raise_log (st : St) (l : Log) (e : Exc) :
    connects (raise st l e).2 = connects l ∧ upBytes (raise st l e).2 = upBytes l ∧
      clItems (raise st l e).2 = clItems l ++ e.response.toList ∧ noLife (raise st l e).2 = noLife l := by
  unfold raise; split <;> simp [connOf, upOfE, clItems, lifeE, *]

theorem call_mem_raise (st : St) (l : Log) (e : Exc) (j : Nat) (h : Hook) (a : Arg) :
    Eff.call j h a ∈ (raise st l e).2 ↔ Eff.call j h a ∈ l := by
  unfold raise; split <;> simp [call_mem_tearReq]

theorem raise_dead (st : St) (l : Log) (e : Exc) : (raise st l e).1.closing = true ∨ (raise st l e).1.down = true := by
  unfold raise; split <;> exact tearReq_dead _ _

abbrev upF : Plugin → Bytes → Res Bytes := fun p x => optRes (p.upChunk x)
abbrev upChain (ps : List Plugin) (raw : Bytes) := chain .upChunk upF Arg.raw 0 ps raw

/-- The log has no lifecycle effect and `dispatched`, once set, stays set.  Both hold of every branch
    and are kept by sequencing, so each function below has them by its shape. -/
def Kept (st : St) (r : St × Log) : Prop := noLife r.2 = true ∧ (st.dispatched = true → r.1.dispatched = true)

theorem Kept.nil (st : St) : Kept st (st, []) := ⟨rfl, id⟩

theorem Kept.ite {st : St} {c : Prop} [Decidable c] {a b : St × Log} (ha : Kept st a) (hb : Kept st b) :
    Kept st (if c then a else b) := by
  split <;> assumption

theorem Kept.seq {st : St} {a b : St × Log} (ha : Kept st a) (hb : Kept a.1 b) : Kept st (b.1, a.2 ++ b.2) :=
  ⟨by rw [noLife_append, ha.1, hb.1]; rfl, fun h => hb.2 (ha.2 h)⟩

theorem follow_kept (cfg : Cfg) (ps : List Plugin) (st : St) (r : Req) : Kept st (follow cfg ps st r) := by
  have h := noLife_chain .clientReq Plugin.clientReq Arg.req 0 ps r rfl
  simp only [follow, Kept]; split <;> simp [h, lifeE]

theorem noUpstreamData_kept (ps : List Plugin) (st : St) (raw : Bytes) : Kept st (noUpstreamData ps st raw) := by
  have h := noLife_chain .clientData Plugin.clientData Arg.raw 0 ps raw rfl
  simp only [noUpstreamData, Kept]; split <;> simp [h]

theorem upstreamData_kept (ps : List Plugin) (st : St) (raw : Bytes) : Kept st (upstreamData ps st raw) := by
  have h := noLife_chain .upChunk upF Arg.raw 0 ps raw rfl
  simp only [upstreamData, Kept]; split <;> simp [h, lifeE]

theorem pipeline_kept (cfg : Cfg) (ps : List Plugin) (st : St) (raw : Bytes) (more : List (Req × Bytes)) :
    Kept st (pipeline cfg ps st raw more) := by
  induction more generalizing st raw with
  | nil => exact .ite ⟨rfl, id⟩ (.nil st)
  | cons q more ih =>
    have hf := follow_kept cfg ps st q.1
    exact .ite ⟨rfl, id⟩ (.ite hf (hf.seq (ih _ _)))

theorem clientData_kept (cfg : Cfg) (ps : List Plugin) (st : St) (raw : Bytes) (more : List (Req × Bytes)) :
    Kept st (clientData cfg ps st raw more) :=
  .ite (noUpstreamData_kept ps st raw) (.ite ⟨rfl, id⟩ (pipeline_kept cfg ps st raw more))

@[simp] theorem firstStep_dispatched (cfg : Cfg) (ps : List Plugin) (st : St) (r : Req) (ok : Bool) :
    (firstStep cfg ps st r ok).1.dispatched = true := by
  simp only [firstStep]; split <;> simp

@[simp] theorem firstStep_upgraded (cfg : Cfg) (ps : List Plugin) (st : St) (r : Req) (ok : Bool) :
    (firstStep cfg ps st r ok).1.upgraded = st.upgraded := by
  simp only [firstStep]; split <;> simp

theorem firstStep_kept (cfg : Cfg) (ps : List Plugin) (st : St) (r : Req) (ok : Bool) :
    Kept st (firstStep cfg ps st r ok) := by
  refine ⟨?_, fun _ => firstStep_dispatched ..⟩
  simp only [firstStep]; split <;> simp

theorem upBytes_upstreamData (ps : List Plugin) (st : St) (raw : Bytes) : upBytes (upstreamData ps st raw).2 = [] := by
  simp only [upstreamData]; split <;> simp [upOfE]

theorem upBytes_drain (st : St) : upBytes (drain st).2 = [] := by
  simp [drain, upBytes, upOfE]

theorem noLife_drain (st : St) : noLife (drain st).2 = true := by
  refine List.all_eq_true.2 fun e he => ?_
  rcases List.mem_append.1 he with he | he
  · obtain ⟨x, _, rfl⟩ := List.mem_map.1 he; rfl
  · cases List.mem_singleton.1 he; rfl

theorem step_kept (cfg : Cfg) (ps : List Plugin) (st : St) (ev : Ev) : Kept st (step cfg ps st ev) := by
  cases ev with
  | first r ok rest more =>
    have hf := firstStep_kept cfg ps st r ok
    exact .ite (.nil st) (.ite hf (hf.seq (clientData_kept cfg ps _ rest more)))
  | first400 => exact .ite (.nil st) (by simp [Kept, lifeE])
  | cdata raw more => exact .ite (.nil st) (clientData_kept cfg ps st raw more)
  | udata raw => exact .ite (.nil st) (upstreamData_kept ps st raw)
  | ueof => exact .ite (.nil st) ⟨noLife_drain st, id⟩
  | ceof => exact .ite (.nil st) ⟨noLife_drain st, id⟩
  | cabort => exact .ite (.nil st) ⟨rfl, id⟩
  | flush =>
    refine .ite (.nil st) ?_
    split
    · exact .nil st
    · exact .ite ⟨rfl, id⟩ ⟨rfl, id⟩

theorem run_kept (cfg : Cfg) (ps : List Plugin) (st : St) (evs : List Ev) : Kept st (run cfg ps st evs) := by
  induction evs generalizing st with
  | nil => exact .nil st
  | cons e es ih => exact (step_kept cfg ps st e).seq (ih _)

theorem run_first_dispatched (cfg : Cfg) (ps : List Plugin) (r : Req) (ok : Bool) (rest : Bytes)
    (more : List (Req × Bytes)) (evs : List Ev) : (run cfg ps {} (.first r ok rest more :: evs)).1.dispatched = true := by
  refine (run_kept cfg ps _ evs).2 ?_
  simp only [step]
  split
  · rename_i h; simp at h
  · split
    · exact firstStep_dispatched ..
    · exact (clientData_kept cfg ps _ rest more).2 (firstStep_dispatched ..)

def Quiet (st : St) : Prop := st.upstream = false ∧ (st.closing = true ∨ st.down = true)

theorem quiet_step (cfg : Cfg) (ps : List Plugin) (st : St) (ev : Ev) (hq : Quiet st) :
    Quiet (step cfg ps st ev).1 ∧ (step cfg ps st ev).1.dispatched = st.dispatched ∧
      (step cfg ps st ev).2.all quietE = true := by
  obtain ⟨hu, hcd⟩ := hq
  have hg : (st.down || st.closing) = true := by rcases hcd with h | h <;> simp [h]
  -- only an abort and a write still do something; every other event meets its guard and is ignored
  cases ev with
  | cabort =>
    simp only [step]
    split
    · exact ⟨⟨hu, hcd⟩, rfl, rfl⟩
    · exact ⟨⟨hu, Or.inr rfl⟩, rfl, rfl⟩
  | flush =>
    simp only [step]
    split
    · exact ⟨⟨hu, hcd⟩, rfl, rfl⟩
    · split
      · exact ⟨⟨hu, hcd⟩, rfl, rfl⟩
      · split
        · exact ⟨⟨hu, Or.inr rfl⟩, rfl, rfl⟩
        · exact ⟨⟨hu, Or.inl (by simpa [*] using hg)⟩, rfl, rfl⟩
  | _ => simp [step, hg, hu, Quiet, hcd]

theorem quiet_run (cfg : Cfg) (ps : List Plugin) (st : St) (evs : List Ev) (hq : Quiet st) :
    (run cfg ps st evs).1.dispatched = st.dispatched ∧ (run cfg ps st evs).2.all quietE = true := by
  induction evs generalizing st with
  | nil => simp [run]
  | cons e es ih =>
    obtain ⟨h1, h2, h3⟩ := quiet_step cfg ps st e hq
    obtain ⟨h4, h5⟩ := ih _ h1
    simp only [run]
    exact ⟨by rw [h4, h2], by simp [h3, h5]⟩

abbrev logF : Plugin → Ctx → Res Ctx := fun p c => optRes (p.accessLog c)
abbrev logChain (ps : List Plugin) := chain .accessLog logF Arg.ctx 0 ps ([] : Ctx)

/-- the default access-log line is written iff no plugin claimed the log -/
def defaultLogOf (ps : List Plugin) : Log :=
  match (logChain ps).2 with
  | .done c => [.defaultLog c]
  | _ => []

theorem shutdownLog_eq (ps : List Plugin) (st : St) :
    shutdownLog ps st =
      if st.dispatched then (logChain ps).1 ++ defaultLogOf ps ++ upCloseAll 0 ps else [] := by
  unfold shutdownLog defaultLogOf logChain logF
  simp only []
  split
  · split <;> simp [*]
  · rfl

theorem countCall_call (i j : Nat) (h h' : Hook) (a : Arg) (l : Log) :
    countCall i h (.call j h' a :: l) = (if j == i && h' == h then 1 else 0) + countCall i h l := by
  rw [countCall, List.countP_cons, Nat.add_comm]; rfl

theorem countCall_noLife (i : Nat) (h : Hook) (hh : reqHook h = false) (l : Log) (hl : noLife l = true) :
    countCall i h l = 0 := by
  rw [countCall, List.countP_eq_zero]
  intro e he
  have hn : lifeE e = false := by simpa using (List.all_eq_true.1 hl) e he
  cases e with
  | call j h' a =>
    have : h' ≠ h := by rintro rfl; simp [lifeE, hh] at hn
    simp [this]
  | _ => simp

theorem countCall_mkCalls {α : Type} (i : Nat) (h h' : Hook) (w : α → Arg) (s : Nat) (xs : List α) :
    countCall i h (mkCalls h' w s xs) = if h' = h ∧ s ≤ i ∧ i < s + xs.length then 1 else 0 := by
  induction xs generalizing s with
  | nil => simp [mkCalls]
  | cons x xs ih =>
    rw [mkCalls_cons, countCall_call, ih]
    by_cases hh : h' = h
    · by_cases hs : s = i
      · subst hs; simp [hh]; omega
      · have : (s + 1 ≤ i ∧ i < s + 1 + xs.length) ↔ (s ≤ i ∧ i < s + (xs.length + 1)) := by omega
        simp [hh, hs, this]
    · simp [hh]

theorem upCloseAll_eq (s : Nat) (ps : List Plugin) : upCloseAll s ps = mkCalls .upClose (fun _ => .unit) s ps := by
  induction ps generalizing s with
  | nil => rfl
  | cons p ps ih => simp [upCloseAll, mkCalls_cons, ih]

theorem countCall_replicate (i : Nat) (h : Hook) (n : Nat) (l : Log) :
    countCall i h (List.replicate n l).flatten = n * countCall i h l := by
  induction n with
  | zero => simp
  | succ n ih => simp [List.replicate_succ, ih, Nat.succ_mul, Nat.add_comm]

theorem countCall_defaultLogOf (i : Nat) (h : Hook) (ps : List Plugin) : countCall i h (defaultLogOf ps) = 0 := by
  unfold defaultLogOf; split <;> rfl

theorem shutdownLog_life (ps : List Plugin) (st : St) : ∀ e ∈ shutdownLog ps st, lifeE e = true := by
  rw [shutdownLog_eq]
  split
  · intro e he
    simp only [List.mem_append] at he
    rcases he with (he | he) | he
    · obtain ⟨j, a, rfl, _, _⟩ := chain_mem _ _ _ _ _ _ e he
      rfl
    · unfold defaultLogOf at he
      split at he <;> simp at he
      subst he; rfl
    · rw [upCloseAll_eq] at he
      obtain ⟨j, a, rfl, _, _⟩ := mem_mkCalls _ _ _ _ e he
      rfl
  · simp

theorem quiet_conn_tail (cfg : Cfg) (ps : List Plugin) (st : St) (evs : List Ev) (n : Nat) (hq : Quiet st) :
    let t := (run cfg ps st evs).2 ++ (List.replicate n (shutdownLog ps (run cfg ps st evs).1)).flatten
    connects t = [] ∧ upBytes t = [] ∧ clItems t = [] ∧ ∀ i h a, Eff.call i h a ∈ t → reqHook h = false := by
  have hrun := List.all_eq_true.1 (quiet_run cfg ps st evs hq).2
  have hsd : ∀ e ∈ (List.replicate n (shutdownLog ps (run cfg ps st evs).1)).flatten, lifeE e = true := by
    intro e he
    obtain ⟨l, hl, hel⟩ := List.mem_flatten.1 he
    cases (List.mem_replicate.1 hl).2
    exact shutdownLog_life ps _ e hel
  obtain ⟨t1, t2, t3⟩ := obs_nil _ fun e he =>
    (List.mem_append.1 he).elim (fun h => quietE_noWire e (hrun e h)) (fun h => lifeE_noWire e (hsd e h))
  refine ⟨t1, t2, t3, fun i h a hm => ?_⟩
  rcases List.mem_append.1 hm with hm | hm
  · cases hrun _ hm
  · simpa [lifeE] using hsd _ hm

/-- **Specification** of "the header value carries exactly the configured credentials `c`" -/
def credOk (c v : Bytes) : Prop :=
  (splitWs v).length = 2 ∧ ((splitWs v)[0]?).map lower = some Auth.BASIC ∧ (splitWs v)[1]? = some c

instance (c v : Bytes) : Decidable (credOk c v) := by unfold credOk; infer_instance

def CredOk (c : Bytes) (o : Option Bytes) : Prop := ∃ v, o = some v ∧ credOk c v

theorem valueOk_iff (c v : Bytes) : Auth.valueOk c v = true ↔ credOk c v := by
  unfold Auth.valueOk credOk
  generalize splitWs v = parts
  rcases parts with _ | ⟨s, _ | ⟨t, _ | ⟨u, rest⟩⟩⟩ <;> simp

theorem check_iff (c : Bytes) (hc : c ≠ []) (o : Option Bytes) : Auth.check (some c) o = true ↔ CredOk c o := by
  unfold Auth.check CredOk
  cases o with
  | none => simp [hc]
  | some v => simp [hc, valueOk_iff]

def allWs (x : Bytes) : Prop := ∀ c ∈ x, isWs c = true
def noWs (x : Bytes) : Prop := ∀ c ∈ x, isWs c = false

theorem splitWsAux_ws (w rest : Bytes) (hw : allWs w) : splitWsAux (w ++ rest) [] = splitWsAux rest [] := by
  induction w with
  | nil => rfl
  | cons c cs ih =>
    have h1 : isWs c = true := hw c List.mem_cons_self
    simp only [List.cons_append, splitWsAux, h1, if_true, List.isEmpty_nil]
    exact ih (fun d hd => hw d (List.mem_cons_of_mem _ hd))

theorem splitWsAux_tok (s rest cur : Bytes) (hs : noWs s) :
    splitWsAux (s ++ rest) cur = splitWsAux rest (s.reverse ++ cur) := by
  induction s generalizing cur with
  | nil => rfl
  | cons c cs ih =>
    have h1 : isWs c = false := hs c List.mem_cons_self
    simp only [List.cons_append, splitWsAux, h1]
    simpa using ih (c :: cur) (fun d hd => hs d (List.mem_cons_of_mem _ hd))

/-- `h`: the word is followed by a blank unless the input ends there -/
theorem splitWsAux_word (s w rest : Bytes) (hs : noWs s) (hne : s ≠ []) (hw : allWs w) (h : w ≠ [] ∨ rest = []) :
    splitWsAux (s ++ (w ++ rest)) [] = s :: splitWsAux rest [] := by
  have hr : (s.reverse ++ []).isEmpty = false := by simpa using hne
  rw [splitWsAux_tok _ _ _ hs]
  cases w with
  | nil =>
    obtain rfl := h.resolve_left (fun h => h rfl)
    simp [splitWsAux, hne]
  | cons c cs =>
    have hc := hw c List.mem_cons_self
    simp only [List.cons_append, splitWsAux, hc, if_true, hr]
    rw [splitWsAux_ws _ _ (fun d hd => hw d (List.mem_cons_of_mem _ hd))]; simp

theorem splitWs_two (w0 s w1 t w2 : Bytes) (h0 : allWs w0) (hs : noWs s) (hsne : s ≠ []) (h1 : allWs w1)
    (h1ne : w1 ≠ []) (ht : noWs t) (htne : t ≠ []) (h2 : allWs w2) :
    splitWs (w0 ++ s ++ w1 ++ t ++ w2) = [s, t] := by
  unfold splitWs
  rw [show w0 ++ s ++ w1 ++ t ++ w2 = w0 ++ (s ++ (w1 ++ (t ++ (w2 ++ [])))) by simp,
    splitWsAux_ws _ _ h0, splitWsAux_word _ _ _ hs hsne h1 (Or.inl h1ne), splitWsAux_word _ _ _ ht htne h2 (Or.inr rfl)]
  rfl

def lineKey (l : Bytes) : Bytes :=
  match splitOnce1 COLON l with
  | none => lower (strip l)
  | some (k, _) => lower (strip k)

def lineVal (l : Bytes) : Bytes :=
  match splitOnce1 COLON l with
  | none => []
  | some (_, v) => strip v

theorem processHeader_eq (h : HMap) (l : Bytes) : ∃ n, processHeader h l = dSet h (lineKey l) (n, lineVal l) := by
  unfold processHeader lineKey lineVal hAdd
  cases splitOnce1 COLON l <;> exact ⟨_, rfl⟩

theorem processHeader_same (h : HMap) (l : Bytes) : hVal? (processHeader h l) (lineKey l) = some (lineVal l) := by
  obtain ⟨n, hn⟩ := processHeader_eq h l
  unfold hVal?
  rw [hn, dGet_dSet_same]; rfl

theorem processHeader_other (h : HMap) (l k : Bytes) (hk : lineKey l ≠ k) :
    hVal? (processHeader h l) k = hVal? h k := by
  obtain ⟨n, hn⟩ := processHeader_eq h l
  unfold hVal?
  rw [hn, dGet_dSet_other _ _ _ _ hk]

theorem foldl_processHeader_other (post : List Bytes) (h : HMap) (k : Bytes) (hp : ∀ m ∈ post, lineKey m ≠ k) :
    hVal? (post.foldl processHeader h) k = hVal? h k := by
  induction post generalizing h with
  | nil => rfl
  | cons m ms ih =>
    simp only [List.foldl_cons]
    rw [ih _ (fun x hx => hp x (List.mem_cons_of_mem _ hx)), processHeader_other _ _ _ (hp m List.mem_cons_self)]

theorem loadBucket_append (bk : Bytes) (l1 l2 : List (Bytes × Bytes)) (acc : List Bytes) :
    loadBucket bk (l1 ++ l2) acc = loadBucket bk l2 (loadBucket bk l1 acc) := by
  induction l1 generalizing acc with
  | nil => rfl
  | cons e rest ih =>
    obtain ⟨n, b⟩ := e
    simp only [List.cons_append, loadBucket]
    split <;> exact ih _

theorem loadBucket_ext (bk : Bytes) (l : List (Bytes × Bytes)) (acc : List Bytes) :
    ∃ t, loadBucket bk l acc = acc ++ t ∧ ∀ x ∈ t, x ∉ acc := by
  induction l generalizing acc with
  | nil => exact ⟨[], by simp [loadBucket], by simp⟩
  | cons e rest ih =>
    obtain ⟨n, b⟩ := e
    simp only [loadBucket]
    split
    · rename_i hc
      obtain ⟨t, ht, hd⟩ := ih (acc ++ [n])
      have hn : n ∉ acc := by simpa using (Bool.and_eq_true_iff.1 hc).2
      exact ⟨n :: t, by rw [ht]; simp,
        List.forall_mem_cons.2 ⟨hn, fun x hx hm => hd x hx (List.mem_append_left _ hm)⟩⟩
    · exact ih acc

theorem mem_loadBucket (bk : Bytes) (l : List (Bytes × Bytes)) (acc : List Bytes) (x : Bytes) :
    x ∈ loadBucket bk l acc ↔ x ∈ acc ∨ (x, bk) ∈ l := by
  induction l generalizing acc with
  | nil => simp [loadBucket]
  | cons e rest ih =>
    obtain ⟨n, b⟩ := e
    simp only [loadBucket]
    split <;> rename_i hc <;> rw [ih] <;> simp at hc ⊢
    · rw [hc.1]; simp [or_assoc]
    · constructor
      · rintro (h | h)
        · exact Or.inl h
        · exact Or.inr (Or.inr h)
      · rintro (h | ⟨rfl, rfl⟩ | h)
        · exact Or.inl h
        · exact Or.inl (hc rfl)
        · exact Or.inr h

end Px.Chain

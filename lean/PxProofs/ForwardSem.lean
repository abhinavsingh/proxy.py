import PxProofs.ForwardImpl
/-!
# C02: the emitted request against the specification

`keptDict_eq`: the rebuilt header dict is the dict of `implFields`, the treatment done on fields;
`pairs_impl_spec`: those fields are the specified ones up to name case and OWS; with the builder's own
`Content-Length` an equal-valued repetition, `fwdImpl … ` is `semEq` to `fwdSpecWith …` (`semEq_impl_spec`).
Its field lines are `token ":" SP field-value` with no CR / LF / other control byte in the value and no
OWS at its ends (`fwdImpl_fieldOk`): no header injection through re-serialisation.
-/
namespace Px.Forward

open Px.Parser Px.Build

def notProxy (cfg : Cfg) (f : Field) : Bool :=
  lower f.name != lower cfg.proxyAuthorization && lower f.name != lower cfg.proxyConnection

def notDisabled (cfg : Cfg) (f : Field) : Bool := !cfg.disable.contains (lower f.name)

/-- the implementation's Via treatment on fields: like `addVia`, but the field is re-spelled `Via` -/
def addViaI (cfg : Cfg) (fs : List Field) : List Field :=
  if fs.any (nameIs viaLower) then
    fs.map (fun f => if nameIs viaLower f then
      { f with name := viaName, value := f.value ++ commaSp ++ viaValue cfg } else f)
  else fs ++ [viaField cfg]

def implFields (first : Bool) (cfg : Cfg) (r : Req) : List Field :=
  ((if first then addViaI cfg (r.fields.filter (notProxy cfg)) else r.fields.filter (notProxy cfg))).filter
    (notDisabled cfg)

theorem entries_filter (fs : List Field) (q : Bytes → Bool) :
    (entries fs).filter (fun e => q e.1) = entries (fs.filter (fun f => q (lower f.name))) := by
  simp only [entries, List.filter_map]
  rfl

theorem keptEntries_entries (cfg : Cfg) (fs : List Field) :
    keptEntries cfg (entries fs) = entries (fs.filter (notProxy cfg)) := by
  unfold keptEntries hdrDel
  rw [entries_filter fs (fun k => k != lower cfg.proxyAuthorization),
    entries_filter _ (fun k => k != lower cfg.proxyConnection), List.filter_filter]
  congr 1
  apply List.filter_congr
  intro f _
  simp [notProxy, Bool.and_comm]

theorem nodup_filter_names {fs : List Field} (hn : (fs.map (fun f => lower f.name)).Nodup) (q : Field → Bool) :
    ((fs.filter q).map (fun f => lower f.name)).Nodup :=
  (List.filter_sublist.map _).nodup hn

theorem withVia_entries (cfg : Cfg) (G : List Field) (hn : (G.map (fun f => lower f.name)).Nodup) :
    withVia cfg (entries G) = entries (addViaI cfg G) := by
  by_cases hv : G.any (nameIs viaLower) = true
  · obtain ⟨g, hg, hgv⟩ := List.any_eq_true.1 hv
    simp only [nameIs, beq_iff_eq] at hgv
    have hmem : (lower g.name, (g.name, g.value)) ∈ entries G := by
      simp only [entries, List.mem_map]; exact ⟨g, hg, rfl⟩
    have hkeys : ((entries G).map (·.1)).Nodup := by rw [entries_keys]; exact hn
    rw [withVia_present cfg (entries G) hkeys hmem hgv]
    simp only [addViaI, hv, if_true, entries, List.map_map]
    apply List.map_congr_left
    intro f hf
    simp only [Function.comp]
    by_cases hfv : lower f.name = viaLower
    · have : f = g := inj_of_nodup_map _ hn hf hg (by rw [hfv, hgv])
      subst this
      simp [nameIs, hfv, lower_viaName]
    · have h1 : (lower f.name == viaLower) = false := by simpa using hfv
      simp [nameIs, h1]
  · simp only [Bool.not_eq_true] at hv
    have hk : ∀ e ∈ entries G, e.1 ≠ viaLower := by
      intro e he
      simp only [entries, List.mem_map] at he
      obtain ⟨f, hf, rfl⟩ := he
      have := List.any_eq_false.1 hv f hf
      simpa [nameIs] using this
    rw [withVia_absent cfg _ hk]
    simp [addViaI, hv, entries, viaField, lower_viaName]

theorem entries_map_snd (fs : List Field) : (entries fs).map (·.2) = dictOf fs := by
  simp [entries, dictOf]

theorem keptDict_eq (first : Bool) (cfg : Cfg) (r : Req) (hn : (r.fields.map (fun f => lower f.name)).Nodup) :
    keptDict first cfg r = dictOf (implFields first cfg r) := by
  unfold keptDict treatedMap implFields
  rw [keptEntries_entries]
  cases first with
  | true =>
    simp only [if_true]
    rw [withVia_entries cfg _ (nodup_filter_names hn _),
      entries_filter _ (fun k => !cfg.disable.contains k)]
    exact entries_map_snd _
  | false =>
    simp only [Bool.false_eq_true, if_false]
    rw [entries_filter _ (fun k => !cfg.disable.contains k)]
    exact entries_map_snd _

def pairs (fs : List Field) : List (Bytes × Bytes) := fs.map (fun f => (lower f.name, f.value))

def dpairs (hd : HDict) : List (Bytes × Bytes) := hd.map (fun e => (lower e.1, e.2))

theorem otherFields_eq (r : Req) : otherFields r = (pairs r.fields).filter (fun p => p.1 != clName) := by
  simp only [otherFields, pairs, List.filter_map]
  congr 1

theorem clValues_eq (r : Req) :
    clValues r = ((pairs r.fields).filter (fun p => p.1 == clName)).map (fun p => pyInt 10 p.2) := by
  simp only [clValues, pairs, List.filter_map, List.map_map]
  congr 1

theorem pairs_of_dict (hd : HDict) :
    pairs (hd.map (fun e => ({ name := e.1, pre := [SP], value := e.2, post := [] } : Field))) = dpairs hd := by
  simp [pairs, dpairs, List.map_map, Function.comp_def]

theorem dpairs_dictOf (fs : List Field) : dpairs (dictOf fs) = pairs fs := by
  simp [pairs, dpairs, dictOf, List.map_map, Function.comp_def]

theorem spec_kept (cfg : Cfg) (fs : List Field) :
    fs.filter (fun f => !removed cfg f) = (fs.filter (notProxy cfg)).filter (notDisabled cfg) := by
  rw [List.filter_filter]
  apply List.filter_congr
  intro f _
  simp only [removed, notProxy, notDisabled, bne, Bool.not_or, Bool.and_comm]

theorem notDisabled_via (cfg : Cfg) (hc : CfgOk cfg) {f : Field} (h : nameIs viaLower f = true) :
    notDisabled cfg f = true := by
  simp only [nameIs, beq_iff_eq] at h
  have := (hc.2 viaLower (by simp)).1
  simp only [notDisabled, h, this]; rfl

theorem pairs_addViaI (cfg : Cfg) (G : List Field) : pairs (addViaI cfg G) = pairs (addVia cfg G) := by
  unfold addViaI addVia
  split
  · simp only [pairs, List.map_map]
    apply List.map_congr_left
    intro f _
    by_cases hfv : nameIs viaLower f = true
    · simp only [Function.comp, hfv, if_true, lower_viaName]
      rw [show lower f.name = viaLower by simpa [nameIs] using hfv]
    · simp [hfv]
  · rfl

theorem pairs_filter_notDisabled (cfg : Cfg) (fs : List Field) :
    pairs (fs.filter (notDisabled cfg)) = (pairs fs).filter (fun p => !cfg.disable.contains p.1) := by
  simp only [pairs, List.filter_map]; rfl

/-- the Via field is not disabled (`CfgOk`) -/
theorem filter_addVia (cfg : Cfg) (hc : CfgOk cfg) (G : List Field) :
    (addVia cfg G).filter (notDisabled cfg) = addVia cfg (G.filter (notDisabled cfg)) := by
  have hany : (G.filter (notDisabled cfg)).any (nameIs viaLower) = G.any (nameIs viaLower) := by
    rw [List.any_filter]
    congr 1
    funext f
    cases h : nameIs viaLower f
    · exact Bool.and_false _
    · rw [notDisabled_via cfg hc h]; rfl
  unfold addVia
  rw [hany]
  split
  · rw [List.filter_map]
    congr 1
    apply List.filter_congr
    intro f _
    simp only [Function.comp]
    split <;> rfl
  · rw [List.filter_append]
    simp [notDisabled_via cfg hc (f := viaField cfg) (by simp [nameIs, viaField, lower_viaName])]

theorem pairs_impl_spec (first : Bool) (cfg : Cfg) (hc : CfgOk cfg) (r : Req) :
    pairs (implFields first cfg r) = pairs (fwdSpecWith first cfg r).fields := by
  unfold implFields fwdSpecWith
  simp only [spec_kept]
  cases first with
  | false => simp
  | true =>
    simp only [if_true]
    rw [pairs_filter_notDisabled, pairs_addViaI, ← pairs_filter_notDisabled, filter_addVia cfg hc]

theorem dpairs_dSet_filter (hd : HDict) (v : Bytes) :
    (dpairs (dSet hd nCL v)).filter (fun p => p.1 != clName) = (dpairs hd).filter (fun p => p.1 != clName) := by
  unfold dSet
  split
  · rename_i hany
    clear hany
    induction hd with
    | nil => rfl
    | cons e rest ih =>
      simp only [dpairs, List.map_cons, List.filter_cons] at ih ⊢
      by_cases he : (e.1 == nCL) = true
      · have h1 : lower e.1 = clName := by
          simp only [beq_iff_eq] at he; rw [he, lower_nCL]
        simp only [he, if_true, lower_nCL, h1, bne_self_eq_false, Bool.false_eq_true, if_false]
        exact ih
      · simp only [he, Bool.false_eq_true, if_false]
        split
        · rw [ih]
        · exact ih
  · simp [dpairs, List.filter_append, lower_nCL]

theorem mem_clvals {hd : HDict} {v : Option Int} :
    v ∈ ((dpairs hd).filter (fun p => p.1 == clName)).map (fun p => pyInt 10 p.2) ↔
      ∃ e ∈ hd, lower e.1 = clName ∧ pyInt 10 e.2 = v := by
  simp only [dpairs, List.mem_map, List.mem_filter, beq_iff_eq]
  constructor
  · rintro ⟨_, ⟨⟨e, he, rfl⟩, hk⟩, rfl⟩; exact ⟨e, he, hk, rfl⟩
  · rintro ⟨e, he, hk, rfl⟩; exact ⟨_, ⟨⟨e, he, rfl⟩, hk⟩, rfl⟩

theorem mem_addVia {cfg : Cfg} {F : List Field} {g : Field} (hg : g ∈ addVia cfg F) :
    nameIs viaLower g = true ∨ g ∈ F := by
  unfold addVia at hg
  split at hg
  · simp only [List.mem_map] at hg
    obtain ⟨f, hf, rfl⟩ := hg
    by_cases hv : nameIs viaLower f = true
    · left; simp only [hv, if_true]; exact hv
    · right; simp only [hv, Bool.false_eq_true, if_false]; exact hf
  · simp only [List.mem_append, List.mem_singleton] at hg
    rcases hg with hg | rfl
    · exact .inr hg
    · left; simp [nameIs, viaField, lower_viaName]

/-- body lengths whose decimal text `int()` still reads (CPython's int-max-str-digits) -/
def LenReadable (r : Req) : Prop := r.body.length < 10 ^ intMaxStrDigits

theorem clValues_spec_all (first : Bool) (cfg : Cfg) (r : Req) (hwf : r.WF) (hfrm : r.framing = .contentLength) :
    ∀ v ∈ clValues (fwdSpecWith first cfg r), v = some (Int.ofNat r.body.length) := by
  obtain ⟨_, _, _, _, _, hnodup, hfr⟩ := hwf
  obtain ⟨-, f, hfm, hfn, hval⟩ := framingOk_cl hfr hfrm
  intro v hv
  simp only [clValues, List.mem_map, List.mem_filter] at hv
  obtain ⟨g, ⟨hg, hgn⟩, rfl⟩ := hv
  have hgF : g ∈ r.fields := by
    simp only [fwdSpecWith] at hg
    split at hg
    · rcases mem_addVia hg with hvia | hg
      · exfalso
        simp only [nameIs, beq_iff_eq] at hvia hgn
        exact viaLower_ne_cl (hvia.symm.trans hgn)
      · exact (List.mem_filter.1 hg).1
    · exact (List.mem_filter.1 hg).1
  have : g = f := inj_of_nodup_map _ hnodup hgF hfm (by
    simp only [nameIs, beq_iff_eq] at hgn hfn; rw [hgn, hfn])
  rw [this]; exact hval

theorem semEq_impl_spec (first : Bool) (cfg : Cfg) (hc : CfgOk cfg) (r : Req) (hwf : r.WF) (hlen : LenReadable r) :
    (fwdImpl first cfg r).semEq (fwdSpecWith first cfg r) := by
  have ⟨_, _, _, _, _, hnodup, hfr⟩ := hwf
  have hkd : dpairs (keptDict first cfg r) = pairs (fwdSpecWith first cfg r).fields := by
    rw [keptDict_eq first cfg r hnodup, dpairs_dictOf, pairs_impl_spec first cfg hc r]
  have hfields : pairs (fwdImpl first cfg r).fields = dpairs (implDict first cfg r) := pairs_of_dict _
  refine ⟨rfl, rfl, rfl, ?_, ?_, rfl⟩
  · rw [otherFields_eq, otherFields_eq, hfields, ← hkd]
    unfold implDict
    split
    · rw [dpairs_dSet_filter]
    · exact List.Perm.refl _
  · rw [clValues_eq (fwdImpl first cfg r), hfields]
    unfold implDict
    split
    · -- the builder set its own `Content-Length: <len>`; every value on either side reads as `len`
      rename_i hcond
      have hfrm : r.framing = .contentLength := by
        cases hf : r.framing <;> simp [hf, Framing.isCL] at hcond ⊢
      have hall := clValues_spec_all first cfg r hwf hfrm
      have hdec : pyInt 10 (natToDec r.body.length) = some (Int.ofNat r.body.length) :=
        pyInt10_natToDec _ hlen
      -- the client's Content-Length field is still in the rebuilt dict, hence on the spec side
      have hex : some (Int.ofNat r.body.length) ∈ clValues (fwdSpecWith first cfg r) := by
        obtain ⟨-, f, hfm, hfn, -⟩ := framingOk_cl hfr hfrm
        have hk := hc.2 clName (by simp)
        have hany := keptDict_any first cfg r hnodup hk.1 hk.2.1 hk.2.2 viaLower_ne_cl
        rw [List.any_eq_true.2 ⟨f, hfm, hfn⟩] at hany
        obtain ⟨e, he, hek⟩ := List.any_eq_true.1 hany
        have hv : pyInt 10 e.2 ∈ clValues (fwdSpecWith first cfg r) := by
          rw [clValues_eq, ← hkd]
          exact mem_clvals.2 ⟨e, he, by simpa using hek, rfl⟩
        exact hall _ hv ▸ hv
      constructor
      · intro v hv
        obtain ⟨e, he, hpk, rfl⟩ := mem_clvals.1 hv
        rcases Px.Codec.mem_dSet he with rfl | ⟨he, _⟩
        · rw [hdec]; exact hex
        · rw [clValues_eq, ← hkd]
          exact mem_clvals.2 ⟨e, he, hpk, rfl⟩
      · intro v hv
        rw [hall v hv]
        exact mem_clvals.2 ⟨_, Px.Codec.mem_dSet_self _ _ _, lower_nCL, hdec⟩
    · rw [clValues_eq, hkd]
      exact ⟨fun _ h => h, fun _ h => h⟩

/-- the proxy's own Via entry is a legal field value -/
def AgentOk (cfg : Cfg) : Prop := valueOk (viaValue cfg) = true ∧ viaValue cfg ≠ []

instance (cfg : Cfg) : Decidable (AgentOk cfg) := by unfold AgentOk; infer_instance

example : AgentOk {} := by decide +kernel

theorem valueOk_via_append {cfg : Cfg} (ha : AgentOk cfg) {v : Bytes} (hv : valueOk v = true) :
    valueOk (v ++ commaSp ++ viaValue cfg) = true := by
  obtain ⟨hvia, hne⟩ := ha
  rw [valueOk_iff] at hv hvia ⊢
  refine ⟨?_, ?_, ?_⟩
  · intro c hc
    simp only [List.mem_append] at hc
    rcases hc with (hc | hc) | hc
    · exact hv.1 c hc
    · have : ∀ c ∈ commaSp, isFieldByte c = true := by decide
      exact this c hc
    · exact hvia.1 c hc
  · intro c hc
    cases v with
    | nil =>
      simp [commaSp] at hc; subst hc; decide
    | cons d ds =>
      simp at hc; subst hc
      exact hv.2.1 d rfl
  · intro c hc
    rw [List.getLast?_append] at hc
    cases hb : (viaValue cfg).getLast? with
    | none => simp at hb; exact absurd hb hne
    | some d =>
      rw [hb] at hc
      simp only [Option.some_or, Option.some.injEq] at hc
      subst hc
      exact hvia.2.2 d hb

theorem digitIn_fieldByte {base : Nat} {c : UInt8} (h : isDigitIn base c = true) :
    isFieldByte c = true ∧ isOws c = false := by
  have ha := isDigitIn_alnum h
  simp only [alnum, isFieldByte, isOws, Bool.or_eq_true, Bool.and_eq_true, decide_eq_true_eq, Bool.or_eq_false_iff,
    beq_eq_false_iff_ne, bne_iff_ne, ne_eq, beq_iff_eq, UInt8.le_iff_toNat_le, ← UInt8.toNat_inj] at ha ⊢
  simp at ha ⊢
  omega

theorem valueOk_digits {v : Bytes} (h : ∀ c ∈ v, isDigitIn 10 c = true) : valueOk v = true := by
  rw [valueOk_iff]
  exact ⟨fun c hc => (digitIn_fieldByte (h c hc)).1,
    fun c hc => (digitIn_fieldByte (h c (List.mem_of_mem_head? hc))).2,
    fun c hc => (digitIn_fieldByte (h c (List.mem_of_mem_getLast? hc))).2⟩

theorem mem_addViaI {cfg : Cfg} {G : List Field} {g : Field} (hg : g ∈ addViaI cfg G) :
    g ∈ G ∨ g = viaField cfg ∨
      ∃ f ∈ G, g = { f with name := viaName, value := f.value ++ commaSp ++ viaValue cfg } := by
  unfold addViaI at hg
  split at hg
  · simp only [List.mem_map] at hg
    obtain ⟨f, hf, rfl⟩ := hg
    by_cases hv : nameIs viaLower f = true
    · simp only [hv, if_true]; exact .inr (.inr ⟨f, hf, rfl⟩)
    · simp only [hv, Bool.false_eq_true, if_false]; exact .inl hf
  · simp only [List.mem_append, List.mem_singleton] at hg
    rcases hg with hg | rfl
    · exact .inl hg
    · exact .inr (.inl rfl)

theorem fwdImpl_fieldOk (first : Bool) (cfg : Cfg) (ha : AgentOk cfg) (r : Req) (hwf : r.WF) :
    ∀ f ∈ (fwdImpl first cfg r).fields, fieldOk f = true := by
  obtain ⟨_, _, _, _, hfs, hnodup, _⟩ := hwf
  have hmk : ∀ e : Bytes × Bytes, tokenOk e.1 = true ∧ valueOk e.2 = true →
      fieldOk { name := e.1, pre := [SP], value := e.2, post := [] } = true := by
    intro e ⟨hk, hv⟩
    simp only [fieldOk, hk, hv, Bool.and_true, Bool.true_and, List.all_nil]
    decide
  have hsplit : ∀ g : Field, fieldOk g = true → tokenOk g.name = true ∧ valueOk g.value = true := by
    intro g hg
    simp only [fieldOk, Bool.and_eq_true] at hg
    exact ⟨hg.1.1.1, hg.2⟩
  have htokVia : tokenOk viaName = true := by decide
  have hkept : ∀ e ∈ keptDict first cfg r, tokenOk e.1 = true ∧ valueOk e.2 = true := by
    rw [keptDict_eq first cfg r hnodup]
    refine List.forall_mem_map.2 fun g hg => ?_
    have hgi := (List.mem_filter.1 hg).1
    have hG : ∀ x ∈ r.fields.filter (notProxy cfg), fieldOk x = true :=
      fun x hx => hfs x (List.mem_filter.1 hx).1
    cases first with
    | false =>
      simp only [Bool.false_eq_true, if_false] at hgi
      exact hsplit g (hG g hgi)
    | true =>
      simp only [if_true] at hgi
      rcases mem_addViaI hgi with hgG | rfl | ⟨f, hf, rfl⟩
      · exact hsplit g (hG g hgG)
      · exact ⟨htokVia, ha.1⟩
      · exact ⟨htokVia, valueOk_via_append ha (hsplit f (hG f hf)).2⟩
  refine List.forall_mem_map.2 fun e he => hmk e ?_
  unfold implDict at he
  split at he
  · rcases Px.Codec.mem_dSet he with rfl | ⟨he, _⟩
    · exact ⟨(by decide : tokenOk nCL = true), valueOk_digits (natToDec_isDigit _)⟩
    · exact hkept e he
  · exact hkept e he

end Px.Forward

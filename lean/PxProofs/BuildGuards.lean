import PxProofs.BuildRoundTrip
/-!
# Guards of the C15 builder theorems and the facts they give (C15)

`WFReq` / `WFRes` (decidable): plain start-line tokens, header names / values in the grammar,
no user-supplied framing header; `chunkedHdrs`: user-supplied `Transfer-Encoding: chunked`.
`req_pkt`, `res_pkt`: a rendered packet in one of the three framings is read back completely;
`framing_of_body` and the facts about `reqHeaders` / `resHeaders`: what the builders write is such a packet.
-/
namespace Px.Codec

open Px.Parser Px.Build
open Px.Url (Url)

def noFraming (hs : HDict) : Bool := hs.all (fun e => lower e.1 != kCL && lower e.1 != kTE)

def optValueOK (ct : Option Bytes) : Bool := match ct with | some c => wfValue c | none => true

/-- guard of `C15_parse_build_req` (decidable) -/
def WFReq (m u v : Bytes) (ct : Option Bytes) (hs : HDict) (ua : Bytes) : Bool :=
  plainTok m && plainTok u && plainTok v && wfHeaders hs && noFraming hs && optValueOK ct && wfValue ua

/-- guard of `C15_parse_build_resp` (decidable) -/
def WFRes (v : Bytes) (reason : Option Bytes) (hs : HDict) : Bool :=
  plainTok v && reasonOK reason && wfHeaders hs && noFraming hs

def chunkedHdrs (hs : HDict) : Bool := hs.any isTEChunked && hs.all (fun e => lower e.1 != kCL)

theorem wfValue_noCR {v : Bytes} (h : wfValue v = true) : ∀ c ∈ v, c ≠ CR := by
  intro c hc hcr
  have h1 := List.all_eq_true.1 (Bool.and_eq_true_iff.1 h).1 c hc
  rw [hcr] at h1; exact absurd h1 (by decide)

theorem mem_pktHeaders_of_mem {H : HDict} {cc : Bool} {e : Bytes × Bytes} (he : e ∈ H) (hne : e.1 ≠ nConn) :
    e ∈ pktHeaders H cc :=
  mem_ite_dSet_of_mem he hne

theorem wfValue_natToDec (n : Nat) : wfValue (natToDec n) = true := by
  simp only [wfValue, Bool.and_eq_true, List.all_eq_true, byte_bne, ne_eq, bytes_beq]
  refine ⟨fun c hc => ⟨(natToDec_noWs n c hc).2.1, (natToDec_noWs n c hc).2.2.1⟩, ?_⟩
  exact strip_noWs (fun c hc => (natToDec_noWs n c hc).1)

theorem wfName_nCL : wfName nCL = true := by decide +kernel
theorem wfName_nCT : wfName nCT = true := by decide +kernel
theorem wfName_nUA : wfName nUA = true := by decide +kernel
theorem wfName_nConn : wfName nConn = true := by decide +kernel

theorem wfValue_close : wfValue vClose = true := by decide +kernel
theorem wfValue_zero : wfValue [48] = true := by decide +kernel

theorem nCT_not_te : lower nCT ≠ kTE := by decide +kernel
theorem nCL_not_te : lower nCL ≠ kTE := by decide +kernel
theorem nUA_not_te : lower nUA ≠ kTE := by decide +kernel
theorem nConn_not_te : lower nConn ≠ kTE := by decide +kernel
theorem nCT_not_cl : lower nCT ≠ kCL := by decide +kernel
theorem nUA_not_cl : lower nUA ≠ kCL := by decide +kernel
theorem nConn_not_cl : lower nConn ≠ kCL := by decide +kernel

theorem nCT_ne_nCL : nCT ≠ nCL := by decide +kernel
theorem nCT_ne_nUA : nCT ≠ nUA := by decide +kernel
theorem nCT_ne_nConn : nCT ≠ nConn := by decide +kernel
theorem nCL_ne_nUA : nCL ≠ nUA := by decide +kernel
theorem nCL_ne_nConn : nCL ≠ nConn := by decide +kernel
theorem nUA_ne_nConn : nUA ≠ nConn := by decide +kernel

theorem noFraming_mem {hs : HDict} (h : noFraming hs = true) {e : Bytes × Bytes} (he : e ∈ hs) :
    lower e.1 ≠ kCL ∧ lower e.1 ≠ kTE := by
  simp only [noFraming, List.all_eq_true, Bool.and_eq_true, bytes_bne, ne_eq] at h
  exact h e he

theorem hasKey_false {k : Bytes} {H : HDict} (h : ∀ e ∈ H, lower e.1 ≠ k) : hasKey k H = false :=
  List.any_eq_false.2 fun e he hk => h e he (bytes_beq.1 hk)

theorem reqH1_noTE {ct : Option Bytes} {hs : HDict} (hte : ∀ e ∈ hs, lower e.1 ≠ kTE) :
    hasKey kTE (reqH1 ct hs) = false := by
  apply hasKey_false
  intro e he
  rcases mem_reqH1 he with h | ⟨c, -, rfl⟩
  · exact hte e h
  · exact nCT_not_te

theorem noFraming_te {hs : HDict} (h : noFraming hs = true) : ∀ e ∈ hs, lower e.1 ≠ kTE :=
  fun _ he => (noFraming_mem h he).2

theorem noFraming_cl {hs : HDict} (h : noFraming hs = true) : ∀ e ∈ hs, lower e.1 ≠ kCL :=
  fun _ he => (noFraming_mem h he).1

section req
variable {ua : Bytes} {ct : Option Bytes} {hs : HDict} {body : Option Bytes} {cc noUa : Bool}

theorem wfHeaders_reqHeaders (hwf : wfHeaders hs = true) (hct : optValueOK ct = true) (hua : wfValue ua = true) :
    wfHeaders (reqHeaders ua ct hs body cc noUa) = true := by
  refine List.all_eq_true.2 fun e he => ?_
  rcases mem_reqHeaders he with h | ⟨c, rfl, rfl⟩ | ⟨-, -, rfl⟩ | rfl | rfl
  · exact List.all_eq_true.1 hwf e h
  · exact Bool.and_eq_true_iff.2 ⟨wfName_nCT, hct⟩
  · exact Bool.and_eq_true_iff.2 ⟨wfName_nCL, wfValue_natToDec _⟩
  · exact Bool.and_eq_true_iff.2 ⟨wfName_nUA, hua⟩
  · exact Bool.and_eq_true_iff.2 ⟨wfName_nConn, wfValue_close⟩

theorem reqHeaders_noTE (hte : ∀ e ∈ hs, isTEChunked e = false) :
    (reqHeaders ua ct hs body cc noUa).any isTEChunked = false := by
  refine List.any_eq_false.2 fun e he => Bool.eq_false_iff.1 ?_
  rcases mem_reqHeaders he with h | ⟨c, -, rfl⟩ | ⟨-, -, rfl⟩ | rfl | rfl
  · exact hte e h
  · exact isTEChunked_false_of nCT_not_te
  · exact isTEChunked_false_of nCL_not_te
  · exact isTEChunked_false_of nUA_not_te
  · exact isTEChunked_false_of nConn_not_te

theorem reqHeaders_isCL {e : Bytes × Bytes}
    (he : e ∈ reqHeaders ua ct hs body cc noUa) (hc : isCL e = true) :
    e ∈ hs ∨ (bodyTruthy body = true ∧ hasKey kTE (reqH1 ct hs) = false ∧
      e = (nCL, natToDec (body.getD []).length)) := by
  rcases mem_reqHeaders he with h | ⟨c, -, rfl⟩ | h | rfl | rfl
  · exact .inl h
  · rw [isCL_false_of (e := (nCT, c)) nCT_not_cl] at hc; cases hc
  · exact .inr h
  · rw [isCL_false_of (e := (nUA, ua)) nUA_not_cl] at hc; cases hc
  · rw [isCL_false_of (e := (nConn, vClose)) nConn_not_cl] at hc; cases hc

theorem reqHeaders_cl (hnf : noFraming hs = true) {e : Bytes × Bytes}
    (he : e ∈ reqHeaders ua ct hs body cc noUa) (hc : isCL e = true) :
    bodyTruthy body = true ∧ e = (nCL, natToDec (body.getD []).length) :=
  ((reqHeaders_isCL he hc).resolve_left fun h => by rw [isCL_false_of (noFraming_mem hnf h).1] at hc; cases hc).imp_right
    (·.2)

/-- what stage 2 holds is sent, unless it is named like the two headers written after it -/
theorem mem_reqHeaders_of_reqH2 {e : Bytes × Bytes} (h2 : e ∈ reqH2 ct hs body) (n2 : e.1 ≠ nUA) (n3 : e.1 ≠ nConn) :
    e ∈ reqHeaders ua ct hs body cc noUa :=
  mem_pktHeaders_of_mem (mem_ite_dSet_of_mem h2 n2) n3

theorem reqHeaders_has_cl (hte : ∀ e ∈ hs, lower e.1 ≠ kTE) (hb : bodyTruthy body = true) :
    (nCL, natToDec (body.getD []).length) ∈ reqHeaders ua ct hs body cc noUa := by
  refine mem_reqHeaders_of_reqH2 ?_ nCL_ne_nUA nCL_ne_nConn
  unfold reqH2
  rw [hb, reqH1_noTE hte]
  exact mem_dSet_self _ _ _

end req

theorem freshLine_req (cfg : Cfg) (total : Nat) (m v : Bytes) (url : Url) :
    FreshLine (reqLineParser cfg total m v url) := by
  rw [reqLineParser_eq]; exact ⟨rfl, rfl, rfl, rfl, rfl⟩

theorem freshLine_res (total : Nat) (v c : Bytes) (r : Option Bytes) : FreshLine (resLineParser total v c r) :=
  ⟨rfl, rfl, rfl, rfl, rfl⟩

/-- what a complete request parse reports, in terms of what was sent -/
structure ReqResult (r : Parser) (m v : Bytes) (url : Url) (H : HDict) (body : Option Bytes) (chunked : Bool) : Prop where
  state_eq : r.state = .complete
  method_eq : r.method = some m
  version_eq : r.version = some v
  url_eq : r.url = some url
  path_eq : r.path = url.remainder
  host_eq : r.host = url.hostname
  headers_eq : r.headers = hdrsOf H
  body_eq : r.body = body
  buffer_eq : r.buffer = none
  chunked_eq : r.isChunked = chunked

theorem reqResult_of {cfg : Cfg} {total : Nat} {m v : Bytes} {url : Url} {r : Parser} {H : HDict}
    {body : Option Bytes} {ch : Bool} (h : FramedResult (reqLineParser cfg total m v url) r H body ch) :
    ReqResult r m v url H body ch := by
  have hl := h.line
  rw [reqLineParser_eq] at hl
  exact ⟨h.state_eq, hl.method_eq, hl.version_eq, hl.url_eq, hl.path_eq, hl.host_eq, h.headers_eq, h.body_eq,
    h.buffer_eq, h.chunked_eq⟩

theorem req_pkt (cfg : Cfg) {m u v : Bytes} {url : Url} {H : HDict} {B : Bytes} {body : Option Bytes} {ch : Bool}
    (hm : plainTok m = true) (hu : plainTok u = true) (hv : plainTok v = true)
    (hurl : Px.Url.fromBytes cfg.allowedSchemes u = .ok url) (hH : wfHeaders H = true)
    (fr : Framing H B body ch) :
    ∃ r, parse cfg (init .request) (m ++ SP :: (u ++ SP :: v) ++ CRLF ++ (renderHdrs H ++ CRLF ++ B)) = .ok r ∧
      ReqResult r m v url H body ch := by
  obtain ⟨r, hp, hr⟩ :=
    parse_framed (parse_request_tok cfg H B hm hu hv hurl (hdrOK_of_wfHeaders hH) _ rfl) (freshLine_req cfg _ m v url) fr
  exact ⟨r, hp, reqResult_of hr⟩

theorem isCL_nCL (v : Bytes) : isCL (nCL, v) = true := bytes_beq.2 lower_nCL

/-- `None` and the empty body alike: nothing follows and the parser reports no body -/
theorem framing_of_body {H : HDict} {body : Option Bytes} (hte : H.any isTEChunked = false)
    (hcl : ∀ e ∈ H, isCL e = true → pyInt 10 e.2 = some (Int.ofNat (body.getD []).length))
    (hex : bodyTruthy body = true → ∃ e ∈ H, isCL e = true) :
    Framing H (body.getD []) (if bodyTruthy body then body else none) false := by
  rcases body with _ | _ | ⟨a, t⟩
  · exact .nobody hte hcl
  · exact .nobody hte hcl
  · exact .cl hte hcl (hex rfl) (List.cons_ne_nil a t)

/-- guard of `C15_parse_build_req_chunked` (decidable) -/
def WFReqChunked (m u v : Bytes) (ct : Option Bytes) (hs : HDict) (ua : Bytes) : Bool :=
  plainTok m && plainTok u && plainTok v && wfHeaders hs && chunkedHdrs hs && optValueOK ct && wfValue ua

theorem chunkedHdrs_spec {hs : HDict} (h : chunkedHdrs hs = true) :
    (∃ e ∈ hs, isTEChunked e = true) ∧ ∀ e ∈ hs, lower e.1 ≠ kCL := by
  simp only [chunkedHdrs, Bool.and_eq_true, List.any_eq_true, List.all_eq_true, bytes_bne, ne_eq] at h
  exact ⟨h.1, h.2⟩

theorem ne_of_lower_ne {a c : Bytes} (h : lower a ≠ lower c) : a ≠ c := fun e => h (e ▸ rfl)

section reqch
variable {ua : Bytes} {ct : Option Bytes} {hs : HDict} {body : Option Bytes} {cc noUa : Bool}

theorem mem_reqH1_of_mem {e : Bytes × Bytes} (he : e ∈ hs) (hne : e.1 ≠ nCT) : e ∈ reqH1 ct hs := by
  unfold reqH1
  cases ct with
  | none => exact he
  | some c => exact mem_dSet_of_mem he hne

theorem ne_builders_of_te {a : Bytes} (hk : lower a = kTE) : a ≠ nCT ∧ a ≠ nUA ∧ a ≠ nConn := by
  exact ⟨fun h => nCT_not_te (h ▸ hk), fun h => nUA_not_te (h ▸ hk), fun h => nConn_not_te (h ▸ hk)⟩

theorem reqH1_hasTE {e : Bytes × Bytes} (he : e ∈ hs) (hk : lower e.1 = kTE) : hasKey kTE (reqH1 ct hs) = true :=
  List.any_eq_true.2 ⟨e, mem_reqH1_of_mem he (ne_builders_of_te hk).1, bytes_beq.2 hk⟩

theorem mem_reqHeaders_of_te {e : Bytes × Bytes} (he : e ∈ hs) (hk : lower e.1 = kTE) :
    e ∈ reqHeaders ua ct hs body cc noUa := by
  obtain ⟨n1, n2, n3⟩ := ne_builders_of_te hk
  refine mem_reqHeaders_of_reqH2 ?_ n2 n3
  unfold reqH2
  rw [reqH1_hasTE he hk, Bool.not_true, Bool.and_false, if_neg Bool.false_ne_true]
  exact mem_reqH1_of_mem he n1

theorem reqHeaders_noCL {t : Bytes × Bytes} (ht : t ∈ hs) (hk : lower t.1 = kTE) (hn : ∀ e ∈ hs, lower e.1 ≠ kCL) :
    ∀ e ∈ reqHeaders ua ct hs body cc noUa, isCL e = false := by
  intro e he
  cases hc : isCL e with
  | false => rfl
  | true =>
    rcases reqHeaders_isCL he hc with h | ⟨-, hno, -⟩
    · rw [isCL_false_of (hn e h)] at hc; cases hc
    · rw [reqH1_hasTE ht hk] at hno; cases hno

end reqch

section res
variable {hs : HDict} {body : Option Bytes} {cc noCl : Bool}

theorem wfHeaders_resHeaders (hwf : wfHeaders hs = true) : wfHeaders (resHeaders hs body cc noCl) = true := by
  refine List.all_eq_true.2 fun e he => ?_
  rcases mem_resHeaders he with h | ⟨-, -, rfl⟩ | rfl
  · exact List.all_eq_true.1 hwf e h
  · refine Bool.and_eq_true_iff.2 ⟨wfName_nCL, ?_⟩
    split
    · exact wfValue_natToDec _
    · exact wfValue_zero
  · exact Bool.and_eq_true_iff.2 ⟨wfName_nConn, wfValue_close⟩

theorem resHeaders_noTE (hte : ∀ e ∈ hs, isTEChunked e = false) :
    (resHeaders hs body cc noCl).any isTEChunked = false := by
  refine List.any_eq_false.2 fun e he => Bool.eq_false_iff.1 ?_
  rcases mem_resHeaders he with h | ⟨-, -, rfl⟩ | rfl
  · exact hte e h
  · exact isTEChunked_false_of nCL_not_te
  · exact isTEChunked_false_of nConn_not_te

theorem resHeaders_isCL {e : Bytes × Bytes}
    (he : e ∈ resHeaders hs body cc noCl) (hc : isCL e = true) :
    e ∈ hs ∨ (noCl = false ∧ e = (nCL, if bodyTruthy body then natToDec (body.getD []).length else [48])) := by
  rcases mem_resHeaders he with h | ⟨h1, -, rfl⟩ | rfl
  · exact .inl h
  · exact .inr ⟨h1, rfl⟩
  · rw [isCL_false_of (e := (nConn, vClose)) nConn_not_cl] at hc; cases hc

theorem resHeaders_cl (hnf : noFraming hs = true) {e : Bytes × Bytes}
    (he : e ∈ resHeaders hs body cc noCl) (hc : isCL e = true) :
    noCl = false ∧ e = (nCL, if bodyTruthy body then natToDec (body.getD []).length else [48]) :=
  (resHeaders_isCL he hc).resolve_left fun h => by rw [isCL_false_of (noFraming_mem hnf h).1] at hc; cases hc

theorem resHeaders_has_cl (hte : ∀ e ∈ hs, lower e.1 ≠ kTE) :
    (nCL, if bodyTruthy body then natToDec (body.getD []).length else [48]) ∈ resHeaders hs body cc false := by
  unfold resHeaders
  rw [hasKey_false hte]
  exact mem_pktHeaders_of_mem (mem_dSet_self _ _ _) nCL_ne_nConn

end res

/-- what a complete response parse reports, in terms of what was sent -/
structure ResResult (r : Parser) (v code : Bytes) (reason : Option Bytes) (H : HDict) (body : Option Bytes)
    (chunked : Bool) : Prop where
  state_eq : r.state = .complete
  version_eq : r.version = some v
  code_eq : r.code = some code
  reason_eq : r.reason = reason
  headers_eq : r.headers = hdrsOf H
  body_eq : r.body = body
  buffer_eq : r.buffer = none
  chunked_eq : r.isChunked = chunked

theorem resResult_of {total : Nat} {v c : Bytes} {rs : Option Bytes} {r : Parser} {H : HDict}
    {body : Option Bytes} {ch : Bool} (h : FramedResult (resLineParser total v c rs) r H body ch) :
    ResResult r v c rs H body ch :=
  ⟨h.state_eq, h.line.version_eq, h.line.code_eq, h.line.reason_eq, h.headers_eq, h.body_eq, h.buffer_eq,
    h.chunked_eq⟩

theorem res_pkt (cfg : Cfg) (status : Int) {v : Bytes} (reason : Option Bytes) {H : HDict} {B : Bytes}
    {body : Option Bytes} {ch : Bool}
    (hv : plainTok v = true) (hr : reasonOK reason = true) (hH : wfHeaders H = true) (fr : Framing H B body ch) :
    ∃ r, parse cfg (init .response) (statusLine status v reason ++ CRLF ++ (renderHdrs H ++ CRLF ++ B)) = .ok r ∧
      ResResult r v (intToDec status) (reasonSeen reason) H body ch := by
  obtain ⟨r, hp, hres⟩ :=
    parse_framed (parse_status_pkt cfg status v reason H B hv hr (hdrOK_of_wfHeaders hH) _ rfl)
      (freshLine_res _ v (intToDec status) (reasonSeen reason)) fr
  exact ⟨r, hp, resResult_of hres⟩

theorem pyInt10_zero : pyInt 10 [48] = some 0 := by decide +kernel

theorem resp_cl_value (body : Option Bytes) :
    (if bodyTruthy body then natToDec (body.getD []).length else [48]) = natToDec (body.getD []).length := by
  rcases body with _ | _ | ⟨a, t⟩
  · decide +kernel
  · decide +kernel
  · rfl

end Px.Codec

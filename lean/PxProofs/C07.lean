import PxModel.Relay
import PxProofs.ConnLemmas
import PxProofs.RelayLemmas
/-!
# C07 — queued output is fully delivered before the proxy closes a connection

The model (`PxModel/Relay.lean`: `tick` = `HttpProtocolHandler.handle_events`, `step` =
one executor round, `run`, `shutdown` / `flushLoop` = threaded
`shutdown()` / `_flush()`) is tied to the code by `harness/c07.py`.

In threadless mode `shutdown()` does not flush (`C07_threaded`, last part), so everything rests on
*when* `handle_events` returns `True`:
`C07_no_early_close` — never while output is pending for the client, unless the
client's own `send` failed in that very tick (then the client cannot be
delivered to any more); `C07_prompt` — in a final-flush state, the tick that
empties the buffer returns `True`; `C07_only_shrinks` / `C07_reads_off` — while
it is non-empty nothing is read that could postpone the close for ever on a
connection without upstream, and pending output only shrinks once reads are
torn down; `C07_delivered` — if the client keeps accepting at least a byte per
round, the run ends in teardown with every pending byte accepted by its
`send`, in order.  `D15` (an upstream *write* failure returned `True` at
once and dropped the client's pending output) is fixed in /repo; the model follows
the fixed code and `C07_upstream_write_failure_drains` runs the D15 schedule.
-/
namespace Px.Relay
open Px Px.Conn

/-- **no early close**: `handle_events` returns `True` with client output pending only when the client's
own `send` raised in that call. -/
theorem C07_no_early_close (s : St) (t : Tick) (h : (tick s t).2 = .teardown)
    (hb : (tick s t).1.client.hasBuffer = true) : ClientSendFailed s t :=
  tick_no_early_close s t h hb

/-- a final flush hit by a broken pipe -/
example :
    let s := st0 .local 0 [[1, 2, 3]] [] true false
    let t : Tick := ⟨false, true, false, false, .blocking, .blocking, .brokenPipe, .blocking, .raised⟩
    (tick s t).2 = .teardown ∧ (tick s t).1.client.hasBuffer = true ∧ ClientSendFailed s t := by
  decide +kernel

theorem C07_no_early_close_run (s : St) (ticks : List Tick) (h : (run s ticks).2 = .teardown)
    (hb : (run s ticks).1.client.hasBuffer = true) :
    ∃ s0 t, t ∈ ticks ∧ ClientSendFailed s0 t ∧ step s0 t = run s ticks :=
  run_no_early_close ticks s h hb

/-- **the D15 schedule.**  Tunnel; the upstream sends two segments while
the client is not writable; the client sends data; the upstream flush of that
data fails with `BrokenPipeError`.  Reads are torn down, the acknowledgement and both segments stay
queued, the failing upstream flush is retried (and fails again) without harm, and three
writable rounds later the run ends in teardown with everything delivered. -/
theorem C07_upstream_write_failure_drains :
    let h1 : Bytes := [83, 45, 72, 45, 49]
    let h2 : Bytes := [83, 45, 72, 45, 50]
    let pre : List Tick := [
      ⟨false, false, true, false, .blocking, .data h1, .blocking, .blocking, .raised⟩,
      ⟨false, false, true, false, .blocking, .data h2, .blocking, .blocking, .raised⟩,
      ⟨true, false, false, false, .data [99], .blocking, .blocking, .blocking, .raised⟩,
      ⟨false, false, false, true, .blocking, .blocking, .blocking, .brokenPipe, .raised⟩]
    let post : List Tick := [
      ⟨false, true, false, true, .blocking, .blocking, .sent 1000000, .brokenPipe, .raised⟩,
      ⟨false, true, false, false, .blocking, .blocking, .sent 1000000, .blocking, .raised⟩,
      ⟨false, true, false, false, .blocking, .blocking, .sent 1000000, .blocking, .raised⟩]
    (run (initTunnel 0) pre).2 = .cont ∧
    (run (initTunnel 0) pre).1.readsTeared = true ∧
    (run (initTunnel 0) pre).1.client.buffer = [ack, h1, h2] ∧
    (run (initTunnel 0) (pre ++ post)).2 = .teardown ∧
    (run (initTunnel 0) (pre ++ post)).1.client.buffer = [] ∧
    (run (initTunnel 0) (pre ++ post)).1.sentC = ack ++ h1 ++ h2 := by
  decide +kernel

theorem C07_prompt (s : St) (t : Tick) (hf : s.mustFlush = true ∨ s.readsTeared = true)
    (hi : FlushInv s) (he : (tick s t).1.client.hasBuffer = false) : (tick s t).2 = .teardown :=
  tick_prompt s t hf hi he

theorem C07_flushInv (s : St) (ticks : List Tick) (hi : FlushInv s) :
    FlushInv (run s ticks).1 ∧ ∀ t, FlushInv (tick s t).1 :=
  ⟨run_inv (fun s _ => tick_flushInv s _) ticks s hi, fun t => tick_flushInv s t hi⟩

example : FlushInv (st0 .local 0 [[1, 2, 3]] [] true false) ∧ FlushInv (initTunnel 0) := by
  unfold FlushInv; decide

theorem C07_reads_off (s : St) (t : Tick) (hm : s.mustFlush = true) :
    (events s).cR = false ∧ (step s t).1.recvC = s.recvC ∧
    ((step s t).2 = .cont → (step s t).1.mustFlush = true) :=
  step_mustFlush s t hm

theorem C07_only_shrinks (s : St) (t : Tick) (hf : FinalFlush s) :
    (∃ w, s.client.buffer.flatten = w ++ (step s t).1.client.buffer.flatten ∧
      (step s t).1.sentC = s.sentC ++ w ∧ pending (step s t).1.client ≤ pending s.client) ∧
    (step s t).1.recvU = s.recvU ∧ (step s t).1.recvC = s.recvC ∧
    (step s t).2 ≠ .raised ∧ ((step s t).2 = .cont → FinalFlush (step s t).1) := by
  obtain ⟨_, _, h3, h4, h6, h7⟩ := step_final s t hf
  exact ⟨step_only_shrinks s t hf, h3, h4, h6, h7⟩

example : FinalFlush (st0 .local 0 [[1, 2, 3]] [] true false) ∧
    FinalFlush (st0 .tunnel 0 [[1]] [] false true) := by
  unfold FinalFlush; decide

/-- **delivery.**  `hg` asks every round of the run to be one in which the client is writable and accepts
at least one byte, however short the write; a client that stops reading for ever is outside the
property.  `hn`: the run is at least as long as the pending measure. -/
theorem C07_delivered (s : St) (ticks : List Tick) (hf : FinalFlush s) (hi : FlushInv s)
    (hb : s.client.hasBuffer = true) (hg : ∀ t ∈ ticks, GoodTick t)
    (hn : pending s.client ≤ ticks.length) :
    (run s ticks).2 = .teardown ∧ (run s ticks).1.client.buffer = [] ∧
    (run s ticks).1.sentC = s.sentC ++ s.client.buffer.flatten :=
  run_delivered ticks s hf hb hg hn

example :
    let s := st0 .local 2 [[1, 2, 3], [4]] [] true false
    let t : Tick := ⟨true, true, true, true, .blocking, .blocking, .sent 1, .blocking, .raised⟩
    FinalFlush s ∧ FlushInv s ∧ s.client.hasBuffer = true ∧ GoodTick t ∧ pending s.client = 6 := by
  refine ⟨by unfold FinalFlush; decide, by unfold FlushInv; decide, by decide, ⟨rfl, 0, rfl⟩, by decide⟩

/-- **threaded mode.**  `shutdown()` with a selector runs `_flush`; if the connection gets closed with
output left, a `send` failed.  Without a selector (threadless) `shutdown()` closes without sending
anything — which is why `handle_events` must not return `True` early (`C07_no_early_close`). -/
theorem C07_threaded (m : Nat) (c : Conn) (script : List SelEv) (hc : c.closed = false) :
    (shutdown true m c script).sent ++ (shutdown true m c script).client.buffer.flatten
      = c.buffer.flatten ∧
    ((shutdown true m c script).client.closed = true →
      (shutdown true m c script).client.buffer ≠ [] →
        ((shutdown true m c script).flushEnd = some .brokenPipe ∧ .ready .brokenPipe ∈ script) ∨
        ((shutdown true m c script).flushEnd = some .osError ∧
          (.ready .osError ∈ script ∨ .ready .sslWantWrite ∈ script))) ∧
    ((shutdown true m c script).flushEnd = some .drained →
      (shutdown true m c script).client.buffer = [] ∧
      (shutdown true m c script).sent = c.buffer.flatten) ∧
    ((shutdown false m c script).sent = [] ∧ (shutdown false m c script).client.buffer = c.buffer ∧
      (shutdown false m c script).client.closed = true) := by
  suffices h : _ ∧ _ ∧ _ from ⟨h.1, h.2.1, h.2.2, rfl, rfl, rfl⟩
  cases hb : c.hasBuffer with
  | false =>
    have h0 := (hasBuffer_false_iff c).mp hb
    unfold shutdown; rw [hb, h0]; simp
  | true =>
    have hs := flushLoop_spec m script c []
    generalize hS : shutdown true m c script = S
    unfold shutdown at hS
    rw [hb, if_pos (show (true && true) = true from rfl)] at hS
    generalize flushLoop m c [] script = r at *
    obtain ⟨c1, sent, e⟩ := r
    have hacc : sent ++ c1.buffer.flatten = c.buffer.flatten := hs.bytes
    cases e <;> dsimp only at hS <;> subst hS
    · have h1 : c1.buffer = [] := hs.drained.mp rfl
      refine ⟨hacc, fun _ h => absurd h1 h, fun _ => ⟨h1, ?_⟩⟩
      rw [h1, List.flatten_nil, List.append_nil] at hacc; exact hacc
    · exact ⟨hacc, fun _ _ => .inl ⟨rfl, hs.brokenPipe rfl⟩, nofun⟩
    · exact ⟨hacc, fun _ _ => .inr ⟨rfl, hs.osError rfl⟩, nofun⟩
    · exact ⟨hacc, fun h => absurd (h.symm.trans (hs.closed.trans hc)) nofun, nofun⟩

example : ({ buffer := [[1, 2, 3], [4]] } : Conn).closed = false := rfl

/-- **threaded mode terminates with everything sent** when the selector reports
the client writable often enough and each such `send` takes at least a byte. -/
theorem C07_threaded_drains (m : Nat) (c : Conn) (script : List SelEv) (hb : c.hasBuffer = true)
    (hg : ∀ e ∈ script, e = .timeout ∨ ∃ k, e = .ready (.sent (k + 1)))
    (hn : pending c ≤ readyCount script) :
    (shutdown true m c script).flushEnd = some .drained ∧
    (shutdown true m c script).sent = c.buffer.flatten ∧
    (shutdown true m c script).client.buffer = [] ∧
    (shutdown true m c script).client.closed = true ∧
    (shutdown true m c script).pluginClosed = true := by
  obtain ⟨d1, d2⟩ := flushLoop_drains m script c [] hg hn
  have hbuf := (flushLoop_spec m script c []).drained.mp d1
  unfold shutdown
  rw [hb]
  generalize flushLoop m c [] script = r at *
  obtain ⟨c1, sent, e⟩ := r
  obtain rfl : e = .drained := d1
  exact ⟨rfl, d2, hbuf, rfl, rfl⟩

example :
    let c : Conn := { buffer := [[1, 2, 3], [4]] }
    let script : List SelEv := [.timeout, .ready (.sent 2), .ready (.sent 9), .timeout, .ready (.sent 1),
      .ready (.sent 1), .ready (.sent 1), .ready (.sent 1)]
    c.hasBuffer = true ∧ pending c ≤ readyCount script ∧
      (shutdown true 0 c script).sent = [1, 2, 3, 4] := by
  decide +kernel

/-- **exceptions.**  The only way an exception escapes `handle_events` in this
model is the application-level handling of a client segment (`Tick.app =
raised`: the request pipeline parser on a plain-HTTP exchange choking on a
malformed follow-up request, or a route handler). -/
theorem C07_raised_only_app (s : St) (t : Tick) (h : (tick s t).2 = .raised) :
    s.kind ≠ .tunnel ∧ t.app = .raised ∧ t.cR = true :=
  tick_raised s t h

example :
    let s := initHttp 0 [71]
    let t : Tick := ⟨true, false, false, false, .data [0], .blocking, .blocking, .blocking, .raised⟩
    (tick s t).2 = .raised := by decide +kernel

/-- **not reaped while output is pending**, for every clock reading and every timeout (zero and negative
included): pending output can leave only through flushes, never through the reaper's `shutdown()`
(which sends nothing, `C07_threaded`). -/
theorem C07_not_reaped_while_pending (s : St) (h : s.client.hasBuffer = true)
    (elapsed timeout : Int) : isInactive s elapsed timeout = false := by
  simp [isInactive, h]

theorem C07_reaped_iff (s : St) (elapsed timeout : Int) :
    isInactive s elapsed timeout = true ↔ s.client.buffer = [] ∧ elapsed > timeout := by
  simp [isInactive, Conn.hasBuffer]

example : isInactive (st0 .local 0 [] [] false false) 11 10 = true ∧
    isInactive (st0 .local 0 [[1]] [] true false) 1000000 (-5) = false := by decide +kernel

/-- **a connection is closed only when drained** or after the client's `send` failed, with the reaper
looking at arbitrary moments with arbitrary clock readings and timeouts. -/
theorem C07_closed_only_when_drained (evs : List Ev) (s : St)
    (hend : (runEv s evs).2 = .teardown ∨ (runEv s evs).2 = .reaped)
    (hb : (runEv s evs).1.client.hasBuffer = true) :
    (runEv s evs).2 = .teardown ∧ ∃ s0 t, Ev.tick t ∈ evs ∧ ClientSendFailed s0 t := by
  obtain ⟨h1, h2⟩ := runEv_last evs s
  rcases hend with ht | hr
  · obtain ⟨s0, t, hm, e⟩ := h1 ht
    exact ⟨ht, s0, t, hm, step_no_early_close s0 t (by rw [e]) (by rw [e]; exact hb)⟩
  · rw [h2 hr] at hb; exact nomatch hb

/-- the reaper passes over a pending final flush whatever the clock says; a broken pipe then ends the
run with output pending -/
example :
    let s := st0 .local 0 [[1, 2, 3]] [] true false
    let evs : List Ev := [.reap 1000000 0, .reap 5 (-1),
      .tick ⟨false, true, false, false, .blocking, .blocking, .brokenPipe, .blocking, .raised⟩]
    (runEv s evs).2 = .teardown ∧ (runEv s evs).1.client.hasBuffer = true := by decide +kernel

example :
    let s := st0 .tunnel 0 [[1, 2, 3]] [] false false
    let evs : List Ev := [.reap 99 10,
      .tick ⟨false, true, false, false, .blocking, .blocking, .sent 9, .blocking, .raised⟩, .reap 10 10, .reap 11 10]
    (runEv s evs).2 = .reaped ∧ (runEv s evs).1.sentC = [1, 2, 3] := by decide +kernel

end Px.Relay

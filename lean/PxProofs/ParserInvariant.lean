import PxProofs.ParserForms
import PxProofs.ChunkLemmas
import PxProofs.Lit
/-!
# The invariant `Inv` of HTTP parser states; the start-line and header phases

What a start line and a header line do to the invariant, and what the header loop does with its
fuel and with appended input.
-/
namespace Px.Parser

theorem hdrGet_hdrSet (h : Headers) (k k' : Bytes) (v : Bytes × Bytes) :
    hdrGet (hdrSet h k v) k' = if k' = k then some v else hdrGet h k' := by
  unfold hdrGet hdrSet
  split
  · rename_i ha
    -- the update keeps every key, so the lookup finds the entry it found before, updated
    have hkey : ((·.1 == k') ∘ fun e : Bytes × (Bytes × Bytes) => if e.1 == k then (k, v) else e) =
        (·.1 == k') := by
      funext e
      by_cases he : e.1 = k <;> simp [he]
    rw [List.find?_map, hkey]
    cases hf : h.find? (·.1 == k') with
    | none =>
      have : k' ≠ k := fun hk => by
        obtain ⟨e, he, hek⟩ := List.any_eq_true.1 ha
        exact absurd (hk ▸ hek) (List.find?_eq_none.1 hf e he)
      simp [this]
    | some e' =>
      have : e'.1 = k' := by simpa using List.find?_some hf
      by_cases hk : k' = k <;> simp [hk, this]
  · rename_i ha
    have : h.find? (·.1 == k) = none :=
      List.find?_eq_none.2 fun e he hek => ha (List.any_eq_true.2 ⟨e, he, hek⟩)
    rw [List.find?_append]
    by_cases hk : k' = k
    · subst hk
      simp [this]
    · have : ¬ k = k' := fun h => hk h.symm
      simp [hk, this]

theorem hdrGet_hdrSet_same (h : Headers) (k : Bytes) (v : Bytes × Bytes) :
    hdrGet (hdrSet h k v) k = some v := by
  rw [hdrGet_hdrSet, if_pos rfl]

theorem hdrGet_hdrSet_ne (h : Headers) (k k' : Bytes) (v : Bytes × Bytes) (hne : k' ≠ k) :
    hdrGet (hdrSet h k v) k' = hdrGet h k' := by
  rw [hdrGet_hdrSet, if_neg hne]

theorem any_iff_hdrGet (h : Headers) (k : Bytes) : h.any (·.1 == k) = (hdrGet h k).isSome := by
  unfold hdrGet
  rw [Option.isSome_map, Bool.eq_iff_iff, List.any_eq_true, List.find?_isSome]

theorem header_addHeader_ne (p : Parser) (key value k' : Bytes) (h : lower key ≠ lower k') :
    header (addHeader p key value) k' = header p k' := by
  unfold header addHeader
  cases p.headers with
  | none =>
    simp only [Option.getD_none]
    rw [hdrGet_hdrSet_ne _ _ _ _ (Ne.symm h)]; rfl
  | some hs =>
    simp only [Option.getD_some]
    rw [hdrGet_hdrSet_ne _ _ _ _ (Ne.symm h)]

theorem header_addHeader_same (p : Parser) (key value k' : Bytes) (h : lower key = lower k') :
    header (addHeader p key value) k' = .ok value := by
  unfold header addHeader
  simp only [← h, hdrGet_hdrSet_same]

theorem hasHeader_addHeader_ne (p : Parser) (key value k' : Bytes) (h : lower key ≠ lower k') :
    hasHeader (addHeader p key value) k' = hasHeader p k' := by
  unfold hasHeader addHeader
  simp only [any_iff_hdrGet, hdrGet_hdrSet_ne _ _ _ _ (Ne.symm h)]
  cases p.headers with
  | none => simp [hdrGet]
  | some hs => simp

theorem hasHeader_addHeader_same (p : Parser) (key value k' : Bytes) (h : lower key = lower k') :
    hasHeader (addHeader p key value) k' = true := by
  unfold hasHeader addHeader
  simp only [any_iff_hdrGet, ← h, hdrGet_hdrSet_same, Option.isSome_some]

/-- `q` is `p` up to the fields that the header and body phases write -/
def Frame (p q : Parser) : Prop :=
  ∃ st hd bd ch ce ic, q =
    { p with state := st, headers := hd, body := bd, chunk := ch, contentExpected := ce, isChunked := ic }

theorem Frame.refl (p : Parser) : Frame p p := ⟨_, _, _, _, _, _, rfl⟩

theorem Frame.trans {a b c : Parser} (h1 : Frame a b) (h2 : Frame b c) : Frame a c := by
  obtain ⟨_, _, _, _, _, _, rfl⟩ := h1
  obtain ⟨_, _, _, _, _, _, rfl⟩ := h2
  exact ⟨_, _, _, _, _, _, rfl⟩

theorem Frame.ty {p q : Parser} (h : Frame p q) : q.ty = p.ty := by
  obtain ⟨_, _, _, _, _, _, rfl⟩ := h; rfl

def ClOk (p : Parser) : Prop :=
  p.contentExpected = true → ∃ clv cl, header p (b "content-length") = .ok clv ∧ pyInt 10 clv = some cl ∧ 0 < cl

structure InvCore (p : Parser) : Prop where
  chunkWF : ∀ c, p.chunk = some c → c.WF
  clOk : ClOk p
  bodyLt : p.state ≠ .complete → p.contentExpected = true → ∀ clv cl,
    header p (b "content-length") = .ok clv → pyInt 10 clv = some cl →
    Int.ofNat (p.body.getD []).length < cl
  early : p.state.num < 4 → p.body = none
  line : p.state.num ≤ 2 → p.contentExpected = false ∧ p.isChunked = false ∧ p.headers = none

/-- in the body phase the framing is known: chunked, Content-Length, or a
    close-delimited response -/
def Framed (p : Parser) : Prop :=
  (p.state = .headersComplete ∨ p.state = .rcvingBody) →
    p.isChunked = true ∨ p.contentExpected = true ∨
      (p.ty = .response ∧ hasHeader p (b "content-length") = false)

/-- Well-formedness of a parser state (every state reachable from `init ty`,
    `inv_init` / `stepOnce_inv`). -/
def Inv (p : Parser) : Prop := InvCore p ∧ Framed p

theorem inv_init (ty : PType) : Inv (init ty) := by
  refine ⟨⟨?_, ?_, ?_, ?_, ?_⟩, ?_⟩
  · intro c h; simp [init] at h
  · intro h; simp [init] at h
  · intro _ h; simp [init] at h
  · intro _; rfl
  · intro _; exact ⟨rfl, rfl, rfl⟩
  · intro h; simp [init] at h

theorem inv_complete {p : Parser} (h : InvCore p) : Inv { p with state := .complete } :=
  ⟨⟨h.chunkWF, h.clOk, fun hne => absurd rfl hne, fun hn => by simp [PState.num] at hn,
    fun hn => by simp [PState.num] at hn⟩, fun hs => by simp at hs⟩

theorem inv_of_lineRcvd {q : Parser} (h : InvCore q) (hs : q.state = .lineRcvd) : Inv q :=
  ⟨h, fun h' => by rcases h' with h' | h' <;> simp [hs] at h'⟩

theorem setLineAttributes_eq (cfg : Cfg) (p : Parser) (u : Px.Url.Url) : ∃ po, setLineAttributes cfg p u =
    { p with url := some u, host := u.hostname, port := some po, path := u.remainder } := by
  unfold setLineAttributes
  cases p.isTunnel <;> exact ⟨_, rfl⟩

theorem lineStep_cases {cfg : Cfg} {p q : Parser} {line : Bytes} (h : lineStep cfg p line = .ok q) :
    (∃ me tu u ve, q = { setLineAttributes cfg { p with method := me, isTunnel := tu } u with
      version := ve, state := .lineRcvd }) ∨
    (∃ ve co re, q = { p with version := ve, code := co, reason := re, state := .lineRcvd }) := by
  unfold lineStep at h
  split at h
  · split at h
    · split at h
      · simp at h
      · split at h
        · simp at h
        · exact .inl ⟨_, _, _, _, (Except.ok.inj h).symm⟩
    · simp at h
  · split at h
    · exact .inr ⟨_, _, _, (Except.ok.inj h).symm⟩
    · exact .inr ⟨_, _, _, (Except.ok.inj h).symm⟩
    · simp at h

/-- the start line leaves `q` in state `lineRcvd` and writes none of these fields -/
structure LineWrites (p q : Parser) : Prop where
  state : q.state = .lineRcvd
  ty : q.ty = p.ty
  totalSize : q.totalSize = p.totalSize
  buffer : q.buffer = p.buffer
  headers : q.headers = p.headers
  body : q.body = p.body
  chunk : q.chunk = p.chunk
  isChunked : q.isChunked = p.isChunked
  contentExpected : q.contentExpected = p.contentExpected

theorem lineStep_spec {cfg : Cfg} {p q : Parser} {line : Bytes} (h : lineStep cfg p line = .ok q) :
    LineWrites p q := by
  rcases lineStep_cases h with ⟨_, _, _, _, rfl⟩ | ⟨_, _, _, rfl⟩
  · obtain ⟨_, hs⟩ := setLineAttributes_eq cfg _ _
    rw [hs]
    exact ⟨rfl, rfl, rfl, rfl, rfl, rfl, rfl, rfl, rfl⟩
  · exact ⟨rfl, rfl, rfl, rfl, rfl, rfl, rfl, rfl, rfl⟩

theorem lineStep_inv {cfg : Cfg} {p q : Parser} {line : Bytes} (hi : InvCore p) (hp : p.state = .initialized)
    (h : lineStep cfg p line = .ok q) : q.state = .lineRcvd ∧ Inv q := by
  have w := lineStep_spec h
  have hl := hi.line (by simp [hp, PState.num])
  -- no content is expected yet, so what `InvCore` says about the Content-Length header holds for want of a premise
  have hce : q.contentExpected ≠ true := by rw [w.contentExpected, hl.1]; exact Bool.false_ne_true
  exact ⟨w.state, inv_of_lineRcvd ⟨fun c hc => hi.chunkWF c (w.chunk ▸ hc), fun h => absurd h hce,
    fun _ h => absurd h hce, fun _ => w.body.trans (hi.early (by simp [hp, PState.num])),
    fun _ => ⟨w.contentExpected.trans hl.1, w.isChunked.trans hl.2.1, w.headers.trans hl.2.2⟩⟩ w.state⟩

theorem lower_clKey_self : lower (b "content-length") = b "content-length" := by rw [b_ofList]; decide +kernel

theorem processHeader_spec {p q : Parser} {line : Bytes} (h : processHeader p line = .ok q) :
    (∃ hd ce ic, q = { p with headers := hd, contentExpected := ce, isChunked := ic }) ∧
      (ClOk p → ClOk q) := by
  unfold processHeader at h
  split at h
  rename_i key value _
  simp only [] at h
  split at h
  · rename_i hk
    simp only [beq_iff_eq] at hk
    split at h
    · simp at h
    · rename_i v hv
      simp only [Except.ok.injEq] at h; subst h
      exact ⟨⟨_, _, _, rfl⟩, fun _ hce =>
        ⟨value, v, header_addHeader_same p key value _ (by rw [hk, lower_clKey_self]), hv, by simpa using hce⟩⟩
  · rename_i hk
    simp only [beq_iff_eq] at hk
    have keep : ∀ q : Parser, q.contentExpected = p.contentExpected →
        header q (b "content-length") = header (addHeader p key value) (b "content-length") →
        ClOk p → ClOk q := by
      intro q h1 h2 hp hce
      rw [h2, header_addHeader_ne p key value _ (by rw [lower_clKey_self]; exact hk)]
      exact hp (h1 ▸ hce)
    split at h <;> (simp only [Except.ok.injEq] at h; subst h; exact ⟨⟨_, _, _, rfl⟩, keep _ rfl rfl⟩)

theorem bodyLt_of_none {q : Parser} (hc : ClOk q) (hb : q.body = none) :
    q.contentExpected = true → ∀ clv cl, header q (b "content-length") = .ok clv →
      pyInt 10 clv = some cl → Int.ofNat (q.body.getD []).length < cl := by
  intro hce clv cl h1 h2
  obtain ⟨clv', cl', h1', h2', h3⟩ := hc hce
  rw [h1] at h1'; cases h1'
  rw [h2] at h2'; cases h2'
  simpa [hb] using h3

theorem hdrStep_frame {p q : Parser} {line : Bytes} (h : hdrStep p line = .ok q) : Frame p q := by
  unfold hdrStep at h
  split at h
  · split at h
    · simp only [Except.ok.injEq] at h; subst h; exact ⟨_, _, _, _, _, _, rfl⟩
    · obtain ⟨_, _, _, rfl⟩ := (processHeader_spec h).1; exact ⟨_, _, _, _, _, _, rfl⟩
  · simp only [Except.ok.injEq] at h; subst h; exact .refl p

theorem hdrStep_started {p q : Parser} {line : Bytes} (h : hdrStep p line = .ok q)
    (hp : p.state ≠ .initialized) : q.state ≠ .initialized := by
  unfold hdrStep at h
  split at h
  · split at h
    · cases h; nofun
    · obtain ⟨_, _, _, rfl⟩ := (processHeader_spec h).1; nofun
  · cases h; exact hp

theorem hdrStep_spec {p q : Parser} {line : Bytes} (hs : p.state = .lineRcvd ∨ p.state = .rcvingHeaders)
    (hi : InvCore p) (h : hdrStep p line = .ok q) :
    InvCore q ∧ (q.state = .headersComplete ∨ q.state = .rcvingHeaders) := by
  have hbody : p.body = none := hi.early (by rcases hs with h | h <;> simp [h, PState.num])
  unfold hdrStep at h
  rw [if_pos (by rcases hs with h | h <;> simp [h])] at h
  split at h
  · simp only [Except.ok.injEq] at h; subst h
    exact ⟨⟨hi.chunkWF, hi.clOk, fun _ => bodyLt_of_none hi.clOk hbody,
      fun hn => by simp [PState.num] at hn, fun hn => by simp [PState.num] at hn⟩, .inl rfl⟩
  · obtain ⟨⟨hd, ce, ic, rfl⟩, hcl⟩ := processHeader_spec h
    have hcq := hcl hi.clOk
    exact ⟨⟨hi.chunkWF, hcq, fun _ => bodyLt_of_none hcq hbody, fun _ => hbody,
      fun hn => by simp [PState.num] at hn⟩, .inr rfl⟩

theorem hdrStep_other {p : Parser} (line : Bytes) (h1 : p.state ≠ .lineRcvd) (h2 : p.state ≠ .rcvingHeaders) :
    hdrStep p line = .ok p := by
  unfold hdrStep
  have : (p.state == .lineRcvd || p.state == .rcvingHeaders) = false := by simp [h1, h2]
  rw [this]; rfl

theorem hdrStep_blank {p : Parser} (hs : p.state = .lineRcvd ∨ p.state = .rcvingHeaders) :
    hdrStep p [] = .ok { p with state := .headersComplete } := by
  unfold hdrStep
  rcases hs with h | h <;> simp [h, strip, rstrip, lstrip]

theorem hdrStep_line {p : Parser} {l : Bytes} (hs : p.state = .lineRcvd ∨ p.state = .rcvingHeaders)
    (hl : (strip l).isEmpty = false) : hdrStep p l = processHeader { p with state := .rcvingHeaders } l := by
  unfold hdrStep
  rcases hs with h | h <;> simp [h, hl]

/-- one unit of fuel per line is enough: every line takes at least two bytes -/
theorem processHeaders_fuel (f1 f2 : Nat) (p : Parser) (u : Bytes) (h1 : u.length < f1) (h2 : u.length < f2) :
    processHeaders f1 p u = processHeaders f2 p u := by
  induction f1 generalizing f2 p u with
  | zero => omega
  | succ f1 ih =>
    cases f2 with
    | zero => omega
    | succ f2 =>
      rw [processHeaders_succ, processHeaders_succ]
      cases hs : splitCRLF u with
      | none => rfl
      | some pr =>
        obtain ⟨line, rest⟩ := pr
        have := splitCRLF_some_length hs
        simp only
        cases hdrStep p line with
        | error e => rfl
        | ok q =>
          simp only
          split
          · rfl
          · exact ih f2 q rest (by omega) (by omega)

theorem processHeaders_append (f f' : Nat) (p : Parser) (u b : Bytes) (hp : p.state ≠ .headersComplete)
    (hf : u.length < f) (hf' : (u ++ b).length < f') (hb : b ≠ []) :
    processHeaders f' p (u ++ b) = match processHeaders f p u with
      | .error e => .error e
      | .ok (q, _, r) => if q.state = .headersComplete then .ok (q, true, r ++ b)
                         else processHeaders ((r ++ b).length + 1) q (r ++ b) := by
  induction f generalizing f' p u with
  | zero => omega
  | succ f ih =>
    cases f' with
    | zero => omega
    | succ f' =>
      rw [processHeaders_succ f p u]
      cases hs : splitCRLF u with
      | none =>
        simp only [if_neg hp]
        exact processHeaders_fuel _ _ _ _ hf' (by omega)
      | some pr =>
        obtain ⟨line, rest⟩ := pr
        have hlen := splitCRLF_some_length hs
        simp only [List.length_append] at hf'
        rw [processHeaders_succ, splitCRLF_append_some hs b]
        simp only
        cases hh : hdrStep p line with
        | error e => rfl
        | ok q =>
          simp only
          have hne : (rest ++ b).isEmpty = false := by simp [hb]
          by_cases hq : q.state = .headersComplete
          · simp only [hq, beq_self_eq_true, Bool.or_true, if_true, hne, Bool.not_false]
          · have hq' : (q.state == .headersComplete) = false := by simp [hq]
            simp only [hq', Bool.or_false, hne, Bool.false_eq_true, if_false]
            by_cases hr : rest = []
            · subst hr
              simp only [List.isEmpty_nil, if_true, if_neg hq, List.nil_append]
              exact processHeaders_fuel _ _ _ _ (by simp only [List.length_nil] at hlen; omega) (by omega)
            · have : rest.isEmpty = false := by simp [hr]
              simp only [this, Bool.false_eq_true, if_false]
              exact ih f' q rest hq (by omega) (by simp only [List.length_append]; omega)

/-- Induction along a header loop that succeeds: it stops for want of a line or after a last line (blank, or
    nothing behind it), or it goes on with the rest. -/
@[elab_as_elim]
theorem processHeaders_ok_ind {motive : Parser → Bytes → Parser → Bool → Bytes → Prop}
    (stop : ∀ {p u}, splitCRLF u = none → motive p u p false u)
    (last : ∀ {p u line rest q}, splitCRLF u = some (line, rest) → hdrStep p line = .ok q →
      rest = [] ∨ q.state = .headersComplete → motive p u q (!rest.isEmpty) rest)
    (more : ∀ {p u line rest q q' m r}, splitCRLF u = some (line, rest) → hdrStep p line = .ok q →
      q.state ≠ .headersComplete → motive q rest q' m r → motive p u q' m r)
    {f : Nat} {p q : Parser} {u r : Bytes} {m : Bool} (hf : u.length < f)
    (h : processHeaders f p u = .ok (q, m, r)) : motive p u q m r := by
  induction f generalizing p u with
  | zero => omega
  | succ f ih =>
    rw [processHeaders_succ] at h
    cases hs : splitCRLF u with
    | none =>
      rw [hs] at h
      cases h
      exact stop hs
    | some pr =>
      obtain ⟨line, rest⟩ := pr
      have := splitCRLF_some_length hs
      simp only [hs] at h
      cases hh : hdrStep p line with
      | error e => simp [hh] at h
      | ok q1 =>
        simp only [hh] at h
        split at h
        · rename_i hc
          cases h
          exact last hs hh (by simpa using hc)
        · rename_i hc
          exact more hs hh (fun hq => hc (by simp [hq])) (ih (by omega) h)

theorem processHeaders_spec (f : Nat) {p q : Parser} {u r : Bytes} {m : Bool}
    (hs : p.state = .lineRcvd ∨ p.state = .rcvingHeaders) (hi : InvCore p) (hf : u.length < f)
    (h : processHeaders f p u = .ok (q, m, r)) :
    InvCore q ∧ ((q.state = .headersComplete ∧ m = !r.isEmpty) ∨
      ((q.state = .lineRcvd ∨ q.state = .rcvingHeaders) ∧ m = false ∧ splitCRLF r = none)) := by
  revert hs hi
  refine processHeaders_ok_ind (fun hsp hs hi => ⟨hi, .inr ⟨hs, rfl, hsp⟩⟩) (fun _ hh hc hs hi => ?_)
    (fun _ hh hnc ih hs hi => ?_) hf h
  · obtain ⟨hi1, h1 | h1⟩ := hdrStep_spec hs hi hh
    · exact ⟨hi1, .inl ⟨h1, rfl⟩⟩
    · obtain rfl := hc.resolve_right (by simp [h1])
      exact ⟨hi1, .inr ⟨.inr h1, rfl, rfl⟩⟩
  · obtain ⟨hi1, h1⟩ := hdrStep_spec hs hi hh
    exact ih (.inr (h1.resolve_left hnc)) hi1
end Px.Parser

import PxProofs.ParserAppend
/-!
# Exact completion of the HTTP parser

On a message of the grammar `Msg` (start line, clean header fields, one of
the self-delimiting framings) followed by a tail, the loop stops complete with exactly the
tail left (`go_msg`), and `parse` completes on no strict prefix (`no_prefix_complete`).
-/
namespace Px.Parser
open Px.Chunk (ChunkedStream)

theorem go_startLine (cfg : Cfg) {P Q1 : Parser} {line rest : Bytes} (hi : Inv P) (hst : P.state = .initialized)
    (hl : splitCRLF line = none) (hls : lineStep cfg P line = .ok Q1) (hr : rest ≠ []) :
    go cfg P (line ++ CRLF ++ rest) = go cfg Q1 rest := by
  obtain ⟨hs1, hi1, _⟩ := lineStep_inv hi.1 hst hls
  rw [go_at_start cfg _ hi hst, splitCRLF_render hl rest]
  have : rest.isEmpty = false := by simp [hr]
  simp only [hls, Except.map, this, Bool.not_false]
  exact next_post_lineRcvd cfg hs1 hi1 rest

/-- request line `method SP target SP version` / status line `version SP code SP reason` -/
def StartLine (cfg : Cfg) (ty : PType) (line : Bytes) : Prop :=
  splitCRLF line = none ∧ ∃ x y z, line = x ++ SP :: (y ++ SP :: z) ∧ SP ∉ x ∧ SP ∉ y ∧
    (ty = .request → x ≠ [] ∧ ∃ u, Px.Url.fromBytes cfg.allowedSchemes y = .ok u)

theorem lineStep_startLine {cfg : Cfg} {ty : PType} {line : Bytes} (h : StartLine cfg ty line) (p : Parser)
    (hty : p.ty = ty) : ∃ Q1, lineStep cfg p line = .ok Q1 := by
  obtain ⟨_, x, y, z, rfl, hx, hy, hu⟩ := h
  unfold lineStep
  rw [hty]
  cases ty with
  | request =>
    obtain ⟨hxne, u, hu⟩ := hu rfl
    have hxe : x.isEmpty = false := by cases x with
      | nil => exact absurd rfl hxne
      | cons _ _ => rfl
    simp only [splitN1_three SP x y z hx hy, hxe, Bool.false_eq_true, if_false, hu]
    exact ⟨_, rfl⟩
  | response =>
    simp only [splitN1_three SP x y z hx hy]
    exact ⟨_, rfl⟩

theorem lineStep_init {cfg : Cfg} {ty : PType} {line : Bytes} (hsl : StartLine cfg ty line) :
    ∃ Q1, lineStep cfg (init ty) line = .ok Q1 ∧ Inv Q1 ∧ LineWrites (init ty) Q1 := by
  obtain ⟨Q1, hQ1⟩ := lineStep_startLine hsl (init ty) rfl
  exact ⟨Q1, hQ1, (lineStep_inv (inv_init ty).1 rfl hQ1).2, lineStep_spec hQ1⟩

def renderLines (ls : List Bytes) : Bytes := (ls.map (· ++ CRLF)).flatten

/-- `_process_header` applied to the lines in order -/
def hdrFold (p : Parser) : List Bytes → Except Err Parser
  | [] => .ok p
  | l :: ls => match processHeader { p with state := .rcvingHeaders } l with
    | .error e => .error e
    | .ok p' => hdrFold p' ls

def LineOk (l : Bytes) : Prop := splitCRLF l = none ∧ (strip l).isEmpty = false

theorem processHeaders_block (f : Nat) {p p' : Parser} (ls : List Bytes) (rest : Bytes)
    (hs : p.state = .lineRcvd ∨ p.state = .rcvingHeaders) (hok : ∀ l ∈ ls, LineOk l)
    (hf : hdrFold p ls = .ok p') (hfuel : (renderLines ls ++ CRLF ++ rest).length < f) :
    processHeaders f p (renderLines ls ++ CRLF ++ rest) =
      .ok ({ p' with state := .headersComplete }, !rest.isEmpty, rest) := by
  induction ls generalizing p f with
  | nil =>
    cases f with
    | zero => omega
    | succ f =>
      simp only [hdrFold, Except.ok.injEq] at hf; subst hf
      have hsp : splitCRLF (renderLines [] ++ CRLF ++ rest) = some ([], rest) :=
        splitCRLF_render (l := []) rfl rest
      rw [processHeaders_succ, hsp]
      simp only [hdrStep_blank hs, beq_self_eq_true, Bool.or_true, if_true]
  | cons l ls ih =>
    cases f with
    | zero => omega
    | succ f =>
      obtain ⟨hl1, hl2⟩ := hok l (by simp)
      have hr : renderLines (l :: ls) ++ CRLF ++ rest = l ++ CRLF ++ (renderLines ls ++ CRLF ++ rest) := by
        simp [renderLines]
      rw [hr] at hfuel ⊢
      rw [processHeaders_succ, splitCRLF_render hl1]
      simp only [hdrFold] at hf
      cases hp : processHeader { p with state := .rcvingHeaders } l with
      | error e => simp [hp] at hf
      | ok p1 =>
        simp only [hp] at hf
        have hs1 : p1.state = .rcvingHeaders := by
          obtain ⟨_, _, _, rfl⟩ := (processHeader_spec hp).1; rfl
        have hne : (renderLines ls ++ CRLF ++ rest).isEmpty = false := by simp [CRLF]
        have hnh : (p1.state == .headersComplete) = false := by simp [hs1]
        simp only [hdrStep_line hs hl2, hp, hne, hnh, Bool.or_self, Bool.false_eq_true, if_false]
        apply ih f (.inr hs1) (fun l' hl' => hok l' (List.mem_cons_of_mem _ hl')) hf
        have hc2 : CRLF.length = 2 := rfl
        simp only [List.length_append, hc2] at hfuel ⊢
        omega

theorem hdrFold_append (p : Parser) (l1 l2 : List Bytes) :
    hdrFold p (l1 ++ l2) = (hdrFold p l1).bind (fun p' => hdrFold p' l2) := by
  induction l1 generalizing p with
  | nil => rfl
  | cons l ls ih =>
    simp only [List.cons_append, hdrFold]
    cases processHeader { p with state := .rcvingHeaders } l with
    | error e => rfl
    | ok p1 => exact ih p1

theorem go_headerBlock (cfg : Cfg) {Q1 p' : Parser} (ls : List Bytes) (rest : Bytes) (hi : Inv Q1)
    (hs : Q1.state = .lineRcvd ∨ Q1.state = .rcvingHeaders) (hok : ∀ l ∈ ls, LineOk l)
    (hf : hdrFold Q1 ls = .ok p') :
    go cfg Q1 (renderLines ls ++ CRLF ++ rest) =
      next cfg (post ({ p' with state := .headersComplete }, !rest.isEmpty, rest)) ∧
    Inv (post ({ p' with state := .headersComplete }, !rest.isEmpty, rest)).1 := by
  have hnc : Q1.state ≠ .complete := by rcases hs with h | h <;> simp [h]
  have hst : stepOnce cfg Q1 (renderLines ls ++ CRLF ++ rest) =
      .ok (post ({ p' with state := .headersComplete }, !rest.isEmpty, rest)) := by
    rw [stepOnce_eq, core_hdr _ hs, processHeaders_block _ ls rest hs hok hf (by omega)]
    rfl
  exact ⟨by rw [go_unfold cfg _ hi hnc, hst], (stepOnce_inv cfg hi hnc hst).1⟩

/-- `name: value` -/
def hdrLine (k v : Bytes) : Bytes := k ++ COLON :: SP :: v

structure FieldOk (k v : Bytes) : Prop where
  kne : k ≠ []
  kstrip : strip k = k
  vstrip : strip v = v
  nocolon : COLON ∉ k
  nocrlf : ∀ c ∈ k ++ v, c ≠ CR ∧ c ≠ LF

theorem lineOk_hdrLine {k v : Bytes} (h : FieldOk k v) : LineOk (hdrLine k v) := by
  constructor
  · apply splitCRLF_none_of_noLF
    intro c hc
    simp only [hdrLine, List.mem_append, List.mem_cons] at hc
    rcases hc with hc | rfl | rfl | hc
    · exact (h.nocrlf c (by simp [hc])).2
    · decide
    · decide
    · exact (h.nocrlf c (by simp [hc])).2
  · cases hb : (strip (hdrLine k v)).isEmpty with
    | false => rfl
    | true =>
      exfalso
      have hall := (strip_isEmpty_iff _).1 hb
      have hk : strip k = [] := (strip_eq_nil_iff k).2 (fun c hc => hall c (by simp [hdrLine, hc]))
      rw [h.kstrip] at hk
      exact h.kne hk

theorem processHeader_field {k v : Bytes} (h : FieldOk k v) (p : Parser) :
    processHeader p (hdrLine k v) =
      (if lower k == b "content-length" then
        match pyInt 10 v with
        | none => .error .valueError
        | some n => .ok { addHeader p k v with contentExpected := decide (n > 0) }
      else if lower k == b "transfer-encoding" && lower v == b "chunked" then
        .ok { addHeader p k v with isChunked := true }
      else .ok (addHeader p k v)) := by
  unfold processHeader
  have hsp : splitOnce1 COLON (hdrLine k v) = some (k, SP :: v) := splitOnce1_render COLON k _ h.nocolon
  have hv : strip (SP :: v) = v := by rw [strip_cons_ws v (by decide), h.vstrip]
  simp only [hsp, h.kstrip, hv]
  rfl

theorem lower_clName : lower (b "Content-Length") = b "content-length" := by rw [b_ofList, b_ofList]; decide +kernel
theorem lower_teName : lower (b "Transfer-Encoding") = b "transfer-encoding" := by rw [b_ofList, b_ofList]; decide +kernel
theorem teKey_ne_clKey : (b "transfer-encoding" == b "content-length") = false := by rw [b_ofList, b_ofList]; decide +kernel
theorem lower_chunked : lower (b "chunked") = b "chunked" := by rw [b_ofList]; decide +kernel
theorem fieldOk_TE : FieldOk (b "Transfer-Encoding") (b "chunked") := by
  rw [b_ofList, b_ofList]
  exact ⟨by decide +kernel, by decide +kernel, by decide +kernel, by decide +kernel, by decide +kernel⟩

/-- the fields that header lines other than the two framing headers leave alone -/
structure HdrKeeps (p q : Parser) : Prop where
  ty : q.ty = p.ty
  chunk : q.chunk = p.chunk
  body : q.body = p.body
  isChunked : q.isChunked = p.isChunked
  contentExpected : q.contentExpected = p.contentExpected

theorem hdrFold_fields (p : Parser) (fields : List (Bytes × Bytes))
    (hok : ∀ kv ∈ fields, FieldOk kv.1 kv.2 ∧ lower kv.1 ≠ b "content-length" ∧
      lower kv.1 ≠ b "transfer-encoding") :
    ∃ p1, hdrFold p (fields.map (fun kv => hdrLine kv.1 kv.2)) = .ok p1 ∧ HdrKeeps p p1 := by
  induction fields generalizing p with
  | nil => exact ⟨p, rfl, rfl, rfl, rfl, rfl, rfl⟩
  | cons kv rest ih =>
    obtain ⟨hf, h1, h2⟩ := hok kv (by simp)
    have hk1 : (lower kv.1 == b "content-length") = false := by simp [h1]
    have hk2 : (lower kv.1 == b "transfer-encoding") = false := by simp [h2]
    have hstep : processHeader { p with state := .rcvingHeaders } (hdrLine kv.1 kv.2) =
        .ok (addHeader { p with state := .rcvingHeaders } kv.1 kv.2) := by
      rw [processHeader_field hf]; simp [hk1, hk2]
    obtain ⟨p1, e0, ⟨e1, e2, e3, e4, e5⟩⟩ := ih (addHeader { p with state := .rcvingHeaders } kv.1 kv.2)
      (fun kv' h' => hok kv' (List.mem_cons_of_mem _ h'))
    exact ⟨p1, by simp only [List.map_cons, hdrFold, hstep]; exact e0, ⟨e1, e2, e3, e4, e5⟩⟩

inductive Body
  | none
  | cl (txt : Bytes) (body : Bytes)
  | chunked (s : ChunkedStream)

structure Msg where
  ty : PType
  line : Bytes
  fields : List (Bytes × Bytes)
  body : Body

def Body.lines : Body → List Bytes
  | .none => []
  | .cl txt _ => [hdrLine (b "Content-Length") txt]
  | .chunked _ => [hdrLine (b "Transfer-Encoding") (b "chunked")]

def Body.bytes : Body → Bytes
  | .none => []
  | .cl _ body => body
  | .chunked s => s.render

/-- what `HttpParser.body` holds after the message -/
def Body.decoded : Body → Option Bytes
  | .none => Option.none
  | .cl _ body => if body = [] then Option.none else some body
  | .chunked s => some s.decoded

def Msg.lines (m : Msg) : List Bytes := m.fields.map (fun kv => hdrLine kv.1 kv.2) ++ m.body.lines

def Msg.render (m : Msg) : Bytes :=
  m.line ++ CRLF ++ (renderLines m.lines ++ CRLF ++ m.body.bytes)

/-- well-formed self-delimiting message (without framing header: requests only) -/
def Msg.Valid (cfg : Cfg) (m : Msg) : Prop :=
  StartLine cfg m.ty m.line ∧
  (∀ kv ∈ m.fields, FieldOk kv.1 kv.2 ∧ lower kv.1 ≠ b "content-length" ∧
    lower kv.1 ≠ b "transfer-encoding") ∧
  (match m.body with
   | .none => m.ty = .request
   | .cl txt body => FieldOk (b "Content-Length") txt ∧ pyInt 10 txt = some (Int.ofNat body.length)
   | .chunked s => s.Valid)

theorem Msg.render_append (m : Msg) (t : Bytes) :
    m.render ++ t = m.line ++ CRLF ++ (renderLines m.lines ++ CRLF ++ (m.body.bytes ++ t)) := by
  simp only [Msg.render, List.append_assoc]

theorem Msg.Valid.linesOk {cfg : Cfg} {m : Msg} (hv : m.Valid cfg) : ∀ l ∈ m.lines, LineOk l := by
  obtain ⟨ty, line, fields, body⟩ := m
  obtain ⟨_, hfields, hbody⟩ := hv
  intro l hl
  simp only [Msg.lines, List.mem_append, List.mem_map] at hl
  rcases hl with ⟨kv, hkv, rfl⟩ | hl
  · exact lineOk_hdrLine (hfields kv hkv).1
  · cases body with
    | none => simp [Body.lines] at hl
    | cl txt bd =>
      simp only [Body.lines, List.mem_singleton] at hl
      exact hl ▸ lineOk_hdrLine hbody.1
    | chunked s =>
      simp only [Body.lines, List.mem_singleton] at hl
      exact hl ▸ lineOk_hdrLine fieldOk_TE

theorem next_post_framed (cfg : Cfg) {Q : Parser} {x : Bytes} (hs : Q.state = .headersComplete)
    (hf : (Q.contentExpected || Q.isChunked) = true) (hx : x ≠ [])
    (hi : Inv (post (Q, !x.isEmpty, x)).1) :
    Inv Q ∧ next cfg (post (Q, !x.isEmpty, x)) = (processBody Q x).map (fun t => (t.1, t.2.2)) := by
  have hne : x.isEmpty = false := by simp [hx]
  rw [post_id _ _ (by simp [hs]) (fun _ => hf)] at hi ⊢
  exact ⟨hi, by rw [hne, Bool.not_false, next_go, go_at_body cfg _ hi (.inl hs)]⟩

theorem go_msg (cfg : Cfg) (m : Msg) (hv : m.Valid cfg) (t : Bytes) :
    ∃ Q, go cfg (init m.ty) (m.render ++ t) = .ok (Q, t) ∧ Q.state = .complete ∧
      Q.body = m.body.decoded := by
  obtain ⟨Q1, hQ1, hI1, w⟩ := lineStep_init hv.1
  obtain ⟨hce1, hch1, _⟩ := hI1.1.line (by simp [w.state, PState.num])
  obtain ⟨p1, e0, k⟩ := hdrFold_fields Q1 m.fields hv.2.1
  -- start line and header block: what remains is the framing line's effect `p'` and the body
  have head : ∀ p', hdrFold p1 m.body.lines = .ok p' →
      go cfg (init m.ty) (m.render ++ t) = next cfg (post ({ p' with state := .headersComplete },
        !(m.body.bytes ++ t).isEmpty, m.body.bytes ++ t)) ∧
      Inv (post ({ p' with state := .headersComplete }, !(m.body.bytes ++ t).isEmpty, m.body.bytes ++ t)).1 := by
    intro p' hp'
    have hf : hdrFold Q1 m.lines = .ok p' := by rw [Msg.lines, hdrFold_append, e0]; exact hp'
    rw [m.render_append, go_startLine cfg (inv_init _) rfl hv.1.1 hQ1 (by simp [CRLF])]
    exact go_headerBlock cfg _ _ hI1 (.inl w.state) hv.linesOk hf
  obtain ⟨ty, line, fields, body⟩ := m
  obtain ⟨_, _, hbody⟩ := hv
  cases body with
  | none =>
    obtain ⟨hgo, _⟩ := head p1 rfl
    rw [hgo, post_complete (q := { p1 with state := .headersComplete }) _ _ rfl (k.contentExpected.trans hce1)
      (k.isChunked.trans hch1) (.inr (.inl ((k.ty.trans w.ty).trans hbody))), next_stop cfg _ (.inr rfl)]
    exact ⟨_, rfl, rfl, k.body.trans w.body⟩
  | cl txt bd =>
    obtain ⟨hfo, hpy⟩ := hbody
    obtain ⟨P2, hP2⟩ : ∃ P2 : Parser, P2 = { addHeader { p1 with state := .rcvingHeaders } (b "Content-Length") txt with
        contentExpected := decide (Int.ofNat bd.length > 0) } := ⟨_, rfl⟩
    have hstep : processHeader { p1 with state := .rcvingHeaders } (hdrLine (b "Content-Length") txt) =
        .ok P2 := by
      rw [processHeader_field hfo, hP2]; simp [lower_clName, hpy]
    obtain ⟨hgo, hI2⟩ := head P2 (by simp only [Body.lines, hdrFold, hstep])
    rw [hgo]
    have g1 : P2.isChunked = false := by rw [hP2]; exact k.isChunked.trans hch1
    have g2 : P2.contentExpected = decide (Int.ofNat bd.length > 0) := by rw [hP2]
    have g3 : P2.body = none := by rw [hP2]; exact k.body.trans w.body
    by_cases hbe : bd = []
    · subst hbe
      have g4 : hasHeader { P2 with state := .headersComplete } (b "content-length") = true := by
        rw [hP2]
        exact hasHeader_addHeader_same { p1 with state := .rcvingHeaders } _ txt _ (by rw [lower_clName, lower_clKey_self])
      rw [post_complete (q := { P2 with state := .headersComplete }) _ _ rfl (by simp [g2]) g1
        (.inr (.inr g4)), next_stop cfg _ (.inr rfl)]
      exact ⟨{ P2 with state := .complete }, rfl, rfl, by simp only [Body.decoded, if_true]; exact g3⟩
    · have hpos : 0 < bd.length := List.length_pos_iff.2 hbe
      have hce2 : P2.contentExpected = true := by
        rw [g2]; simp only [Int.ofNat_eq_natCast, gt_iff_lt, decide_eq_true_eq]; omega
      have hne : Body.bytes (.cl txt bd) ++ t ≠ [] := by simp [Body.bytes, hbe]
      obtain ⟨hIQ, hnext⟩ := next_post_framed cfg (Q := { P2 with state := .headersComplete }) rfl
        (by simp [hce2]) hne hI2
      have hneed : need { P2 with state := .headersComplete } = bd.length := by
        have g5 : header { P2 with state := .headersComplete } (b "content-length") = .ok txt := by
          rw [hP2]
          exact header_addHeader_same { p1 with state := .rcvingHeaders } _ txt _ (by rw [lower_clName, lower_clKey_self])
        unfold need; rw [g5]; simp [hpy, g3]
      rw [hnext, processBody_cl hIQ.1 (by simp) g1 hce2, hneed]
      simp only [Body.bytes, Except.map, List.length_append, Nat.le_add_right, if_true, List.take_left',
        List.drop_left', g3, Option.getD_none, List.nil_append]
      exact ⟨_, rfl, rfl, by simp [Body.decoded, hbe]⟩
  | chunked s =>
    obtain ⟨P2, hP2⟩ : ∃ P2 : Parser, P2 = { addHeader { p1 with state := .rcvingHeaders }
        (b "Transfer-Encoding") (b "chunked") with isChunked := true } := ⟨_, rfl⟩
    have hstep : processHeader { p1 with state := .rcvingHeaders }
        (hdrLine (b "Transfer-Encoding") (b "chunked")) = .ok P2 := by
      rw [processHeader_field fieldOk_TE, hP2]; simp [lower_teName, teKey_ne_clKey, lower_chunked]
    obtain ⟨hgo, hI2⟩ := head P2 (by simp only [Body.lines, hdrFold, hstep])
    have g1 : P2.isChunked = true := by rw [hP2]
    have g6 : ({ P2 with state := .headersComplete } : Parser).chunk.getD Px.Chunk.init = Px.Chunk.init := by
      have : P2.chunk = none := by rw [hP2]; exact k.chunk.trans w.chunk
      simp only [this, Option.getD_none]
    have hne : Body.bytes (.chunked s) ++ t ≠ [] := by simp [Body.bytes, Px.Chunk.render_ne_nil s]
    rw [hgo, (next_post_framed cfg rfl (by simp [g1]) hne hI2).2,
      processBody_chunked (p := { P2 with state := .headersComplete }) g1, g6]
    simp only [Body.bytes, Px.Chunk.parse_stream s hbody Px.Chunk.init rfl rfl t, beq_self_eq_true, if_true,
      Except.map]
    exact ⟨_, rfl, rfl, by simp [Body.decoded, Px.Chunk.init]⟩

theorem parse_init_nonempty (cfg : Cfg) (ty : PType) {x : Bytes} (hx : x ≠ []) :
    parse cfg (init ty) x = (go cfg (init ty) x).map (putBack x.length) := by
  rw [parse_nonempty cfg _ hx]
  have h1 : setTB 0 none (init ty) = init ty := rfl
  have h2 : bufBytes (init ty) = [] := rfl
  have h3 : (init ty).totalSize + x.length = x.length := by simp [init]
  rw [h1, h2, h3, List.nil_append]

theorem parse_complete (cfg : Cfg) {q : Parser} (hc : q.state = .complete) {s : Bytes} (hs : s ≠ []) :
    ∃ q', parse cfg q s = .ok q' ∧ q'.buffer = some (bufBytes q ++ s) := by
  rw [parse_eq, loop_done (p := { q with totalSize := q.totalSize + s.length, buffer := none }) cfg _ (.inr hc)]
  refine ⟨_, rfl, ?_⟩
  simp only [finish]
  have : (bufBytes q ++ s).isEmpty = false := by simp [hs]
  simp [this]

theorem no_prefix_complete (cfg : Cfg) {p0 q : Parser} {x : Bytes} (hw : WF p0)
    (h : parse cfg p0 x = .ok q) (hc : q.state = .complete) (hb : q.buffer = none) :
    ∀ p s, x = p ++ s → s ≠ [] → ∃ q', parse cfg p0 p = .ok q' ∧ q'.state ≠ .complete := by
  intro p s hx hs
  subst hx
  have hg : ∀ q', parse cfg p0 (p ++ s) = .ok q' → closeDelimited q' = false := by
    intro q' hq'
    rw [h] at hq'
    simp only [Except.ok.injEq] at hq'; subst hq'
    simp [closeDelimited, hc]
  rw [parse_append cfg p s hw hg] at h
  cases hp : parse cfg p0 p with
  | error e => simp [hp, Except.bind] at h
  | ok q' =>
    refine ⟨q', rfl, fun hcq => ?_⟩
    simp only [hp, Except.bind] at h
    obtain ⟨q2, h2, hb2⟩ := parse_complete cfg hcq hs
    rw [h2] at h
    simp only [Except.ok.injEq] at h; subst h
    rw [hb] at hb2; simp at hb2

theorem go_statusLine (cfg : Cfg) {line : Bytes} (hsl : StartLine cfg .response line) :
    ∃ Q, go cfg (init .response) (line ++ CRLF ++ CRLF) = .ok (Q, []) ∧ Q.state = .complete := by
  obtain ⟨Q1, hQ1, hI1, w⟩ := lineStep_init hsl
  rw [go_startLine cfg (inv_init .response) rfl hsl.1 hQ1 (by simp [CRLF]),
    ← next_post_lineRcvd cfg w.state hI1.1]
  rw [post_statusLine _ w.state w.ty, next_stop cfg _ (.inr rfl)]
  exact ⟨_, rfl, rfl⟩
end Px.Parser

import PxModel.Intercept
import PxProofs.RelayLemmas
/-! C11: the relay (`Px.Relay`) started in the state a refused upstream leaves behind
    (`must_flush_before_shutdown`, acknowledgement queued) stays `Quiet` whatever the schedule. -/
namespace Px.Intercept
open Px Px.Relay

/-- nothing has been queued for or sent to the upstream -/
structure Quiet (s : St) : Prop where
  sentU : s.sentU = []
  ubuf : s.upstream.buffer = []

theorem phaseCW_keeps_quiet {s : St} (t : Tick) (hq : Quiet s) :
    Quiet (phaseCW s t).1 ∧ (phaseCW s t).1.recvU = s.recvU := by
  obtain ⟨cl, sc, tr, mf, e, _⟩ := phaseCW_frame s t
  rw [e]
  exact ⟨{ hq with }, rfl⟩

theorem phaseUW_nobuf (s : St) (t : Tick) (h : s.upstream.buffer = []) : phaseUW s t = (s, false) := by
  unfold phaseUW
  simp [Conn.hasBuffer, h]

theorem phaseUR_keeps_quiet {s : St} (t : Tick) (hq : Quiet s) :
    Quiet (phaseUR s t).1 ∧ (t.uR = false → (phaseUR s t).1.recvU = s.recvU) := by
  unfold phaseUR
  split
  · rename_i hu
    cases Conn.recv t.uRecv with
    | none_ => exact ⟨hq, fun _ => rfl⟩
    | exc o => cases o <;> exact ⟨hq, fun _ => rfl⟩
    | seg b => exact ⟨{ hq with }, fun h => by simp [h] at hu⟩
  · exact ⟨hq, fun _ => rfl⟩

theorem readHalf_keeps_quiet {s : St} (t : Tick) (hc : t.cR = false) (hq : Quiet s) :
    Quiet (readHalf s t).1 ∧ (t.uR = false → (readHalf s t).1.recvU = s.recvU) := by
  rcases readHalf_cases s t with ⟨_, e⟩ | ⟨_, ⟨hr, _⟩ | ⟨hr, _⟩ | ⟨_, e⟩⟩
  · rw [e]; exact ⟨hq, fun _ => rfl⟩
  · rw [phaseCR_idle s t hc] at hr; exact nomatch hr
  · rw [phaseCR_idle s t hc] at hr; exact nomatch hr
  · rw [e, phaseCR_idle s t hc]
    obtain ⟨q, r⟩ := phaseUR_keeps_quiet t hq
    exact ⟨{ q with }, r⟩

theorem tick_keeps_quiet (s : St) (t : Tick) (hq : Quiet s) (hcR : t.cR = false) :
    Quiet (tick s t).1 ∧ (t.uR = false → (tick s t).1.recvU = s.recvU) := by
  unfold tick
  dsimp only
  obtain ⟨q1, r1⟩ := phaseCW_keeps_quiet (s := { s with trC := none, trU := none }) t { hq with }
  rcases heq : phaseCW { s with trC := none, trU := none } t with ⟨s1, w⟩
  rw [heq] at q1 r1
  cases w with
  | true => exact ⟨{ q1 with }, fun _ => r1⟩
  | false =>
    simp only
    rw [phaseUW_nobuf { s1 with writesTeared := false } t q1.ubuf]
    obtain ⟨q2, r2⟩ :=
      readHalf_keeps_quiet (s := { s1 with writesTeared := false, readsTeared := s1.readsTeared || false }) t hcR
        { q1 with }
    exact ⟨q2, fun hu => (r2 hu).trans r1⟩

/-- While `must_flush_before_shutdown` is up client reads are off, so a step touches nothing on the
    upstream side; `Px.Relay.step_mustFlush` says the flag stays up until the run ends. -/
theorem step_keeps_quiet (s : St) (t : Tick) (hm : s.mustFlush = true) (hq : Quiet s) :
    Quiet (step s t).1 ∧ (t.uR = false → (step s t).1.recvU = s.recvU) := by
  have hcR : (mask (events s) t).cR = false := by simp [mask, (step_mustFlush s t hm).1]
  obtain ⟨q, r⟩ := tick_keeps_quiet s (mask (events s) t) hq hcR
  exact ⟨q, fun hu => r (by simp [mask, hu])⟩

theorem run_keeps_quiet (ticks : List Tick) (s : St) (hm : s.mustFlush = true) (hq : Quiet s) :
    Quiet (run s ticks).1 ∧ (run s ticks).1.recvC = s.recvC ∧
    ((∀ t ∈ ticks, t.uR = false) → (run s ticks).1.recvU = s.recvU) := by
  induction ticks generalizing s with
  | nil => exact ⟨hq, rfl, fun _ => rfl⟩
  | cons t ts ih =>
    obtain ⟨q1, r1⟩ := step_keeps_quiet s t hm hq
    obtain ⟨_, c1, m1⟩ := step_mustFlush s t hm
    have hr : (∀ t' ∈ t :: ts, t'.uR = false) → (step s t).1.recvU = s.recvU :=
      fun hall => r1 (hall t (List.mem_cons_self ..))
    rw [run_cons]
    split
    · rename_i hcont
      obtain ⟨q2, c2, r2⟩ := ih _ (m1 hcont) q1
      exact ⟨q2, c2.trans c1, fun hall => (r2 fun t ht => hall t (List.mem_cons_of_mem _ ht)).trans (hr hall)⟩
    · exact ⟨q1, c1, hr⟩

end Px.Intercept

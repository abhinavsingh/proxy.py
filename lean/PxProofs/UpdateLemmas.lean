import PxModel.UpdateBody
import PxProofs.RebuildThms
/-!
# `HttpParser.update_body` (C15)

`updateBody_eq`: the model as one record update — only the header map and the body change.  The new maps
(`updHeaders` for a message that is not chunked, `updHeadersCh` for a chunked one) satisfy the rebuild guard and
carry exactly the framing headers the rebuild theorems ask for.
-/
namespace Px.Codec

open Px.Parser Px.Build Px.UpdateBody

def kCE : Bytes := [99, 111, 110, 116, 101, 110, 116, 45, 101, 110, 99, 111, 100, 105, 110, 103]
def vGzip : Bytes := [103, 122, 105, 112]
def kCT : Bytes := [99, 111, 110, 116, 101, 110, 116, 45, 116, 121, 112, 101]

theorem bn_content_encoding : b "content-encoding" = kCE := by rw [b_ofList]; rfl
theorem bn_gzip : b "gzip" = vGzip := by rw [b_ofList]; rfl
theorem lower_kCE : lower kCE = kCE := by decide +kernel
theorem lower_nCT : lower nCT = kCT := by decide +kernel
theorem kCL_ne_kCT : kCL ≠ kCT := by decide +kernel
theorem kCE_ne_kCT : kCE ≠ kCT := by decide +kernel
theorem kCE_ne_kCL : kCE ≠ kCL := by decide +kernel
theorem kTE_ne_kCL : kTE ≠ kCL := by decide +kernel
theorem kTE_ne_kCT : kTE ≠ kCT := by decide +kernel
theorem kTE_ne_kCE : kTE ≠ kCE := by decide +kernel

/-- is the message's body gzip-encoded (`content-encoding: gzip`, value compared exactly)? -/
def isGzip (h : Headers) : Bool :=
  match hdrGet h kCE with
  | some nv => nv.2 == vGzip
  | none => false

def updBody (gz : Bytes → Bytes) (h : Headers) (body : Bytes) : Bytes := if isGzip h then gz body else body

def updHeaders (gz : Bytes → Bytes) (h : Headers) (body ct : Bytes) : Headers :=
  let h1 := if isGzip h then h else hdrDel h kCE
  hdrSet (hdrSet h1 kCL (nCL, natToDec (updBody gz h body).length)) kCT (nCT, ct)

def updHeadersCh (h : Headers) (ct : Bytes) : Headers :=
  hdrSet (hdrDel (if isGzip h then h else hdrDel h kCE) kCL) kCT (nCT, ct)

/-- first half of `update_body`: content-encoding -/
def stage1 (gz : Bytes → Bytes) (p : Parser) (body : Bytes) : Parser × Bytes :=
  if hasHeader p (b "content-encoding") then
    match header p (b "content-encoding") with
    | .ok v => if v == b "gzip" then (p, gz body) else (delHeader p (b "content-encoding"), body)
    | .error _ => (p, body)
  else (p, body)

/-- second half: transfer-encoding / content-length, body, content-type -/
def stage2 (pb : Parser × Bytes) (ct : Bytes) : Except Px.UpdateBody.Err Parser :=
  let r : Except Px.UpdateBody.Err (Parser × Bytes) :=
    if pb.1.isChunked then .ok (delHeader pb.1 (b "content-length"), pb.2)
    else .ok (addHeader pb.1 (b "Content-Length") (natToDec pb.2.length), pb.2)
  match r with
  | .error e => .error e
  | .ok (p, body) => .ok (addHeader { p with body := some body } (b "Content-Type") ct)

theorem updateBody_stages (gz : Bytes → Bytes) (bufSize : Nat) (p : Parser) (body ct : Bytes) :
    updateBody gz bufSize p body ct = stage2 (stage1 gz p body) ct := rfl

theorem stage1_eq (gz : Bytes → Bytes) (p : Parser) (body : Bytes) :
    stage1 gz p body =
      ({ p with headers := p.headers.map (fun h => if isGzip h then h else hdrDel h kCE) },
        updBody gz (p.headers.getD []) body) := by
  unfold stage1 hasHeader header updBody isGzip
  rw [bn_content_encoding, bn_gzip, lower_kCE]
  rcases hh : p.headers with _ | h
  · show (p, body) = ({ p with headers := none }, body)
    rw [← hh]
  · have hp : p = { p with headers := some h } := by rw [← hh]
    simp only [any_iff_hdrGet, Option.getD_some, Option.map_some]
    rcases Option.eq_none_or_eq_some (hdrGet h kCE) with hg | ⟨nv, hg⟩
    · have : hdrDel h kCE = h := hdrDel_of_no_key h kCE (by rw [any_iff_hdrGet, hg]; rfl)
      simp only [hg, Option.isSome_none, Bool.false_eq_true, if_false, this]
      exact congrArg (·, body) hp
    · simp only [hg, Option.isSome_some, if_true]
      cases nv.2 == vGzip with
      | true => exact congrArg (·, gz body) hp
      | false => rw [delHeader_eq, hh, lower_kCE]; rfl

theorem stage2_eq (p : Parser) (ho : Option Headers) (bd ct : Bytes) :
    stage2 ({ p with headers := ho }, bd) ct = .ok { p with
      headers := some (if p.isChunked then hdrSet (hdrDel (ho.getD []) kCL) kCT (nCT, ct)
        else hdrSet (hdrSet (ho.getD []) kCL (nCL, natToDec bd.length)) kCT (nCT, ct)),
      body := some bd } := by
  unfold stage2
  rw [bn_content_length, bn_Content_Length, bn_Content_Type]
  cases p.isChunked with
  | false => simp only [Bool.false_eq_true, if_false, addHeader, lower_nCL, lower_nCT, Option.getD_some]
  | true =>
    simp only [if_true, addHeader, delHeader_eq, lower_kCL, lower_nCT]
    cases ho <;> rfl

theorem getD_map_ceDrop (o : Option Headers) :
    (o.map (fun h => if isGzip h then h else hdrDel h kCE)).getD [] =
      if isGzip (o.getD []) then o.getD [] else hdrDel (o.getD []) kCE := by
  cases o <;> rfl

theorem updateBody_eq (gz : Bytes → Bytes) (bufSize : Nat) (p : Parser) (body ct : Bytes) :
    updateBody gz bufSize p body ct = .ok { p with
      headers := some (if p.isChunked then updHeadersCh (p.headers.getD []) ct
        else updHeaders gz (p.headers.getD []) body ct),
      body := some (updBody gz (p.headers.getD []) body) } := by
  rw [updateBody_stages, stage1_eq, stage2_eq, getD_map_ceDrop]
  rfl

def updParser (gz : Bytes → Bytes) (p : Parser) (body ct : Bytes) : Parser :=
  { p with headers := some (updHeaders gz (p.headers.getD []) body ct),
           body := some (updBody gz (p.headers.getD []) body) }

theorem updateBody_plain (gz : Bytes → Bytes) (bufSize : Nat) (p : Parser) (body ct : Bytes)
    (hch : p.isChunked = false) : updateBody gz bufSize p body ct = .ok (updParser gz p body ct) := by
  rw [updateBody_eq, if_neg (hch ▸ Bool.false_ne_true)]
  rfl

def updParserCh (gz : Bytes → Bytes) (p : Parser) (body ct : Bytes) : Parser :=
  { p with headers := some (updHeadersCh (p.headers.getD []) ct),
           body := some (updBody gz (p.headers.getD []) body) }

theorem updateBody_chunked (gz : Bytes → Bytes) (bufSize : Nat) (p : Parser) (body ct : Bytes)
    (hch : p.isChunked = true) : updateBody gz bufSize p body ct = .ok (updParserCh gz p body ct) := by
  rw [updateBody_eq, if_pos hch]
  rfl

section upd
variable (gz : Bytes → Bytes) (h : Headers) (body ct : Bytes)

theorem hdrInvB_ceDrop (hi : hdrInvB h = true) : hdrInvB (if isGzip h then h else hdrDel h kCE) = true := by
  split
  · exact hi
  · exact hdrInvB_hdrDel hi _

theorem mem_ceDrop {a : Bytes × (Bytes × Bytes)} (ha : a ∈ (if isGzip h then h else hdrDel h kCE)) : a ∈ h := by
  split at ha
  · exact ha
  · exact (List.mem_filter.1 ha).1

theorem hdrInvB_upd (hi : hdrInvB h = true) (hct : wfValue ct = true) :
    hdrInvB (updHeaders gz h body ct) = true := by
  have h2 := hdrInvB_hdrSet (hdrInvB_ceDrop h hi) wfName_nCL (wfValue_natToDec (updBody gz h body).length)
  rw [lower_nCL] at h2
  have h3 := hdrInvB_hdrSet h2 wfName_nCT hct
  rwa [lower_nCT] at h3

theorem hdrInvB_updCh (hi : hdrInvB h = true) (hct : wfValue ct = true) : hdrInvB (updHeadersCh h ct) = true := by
  have h3 := hdrInvB_hdrSet (hdrInvB_hdrDel (hdrInvB_ceDrop h hi) kCL) wfName_nCT hct
  rwa [lower_nCT] at h3

theorem updHeaders_ct : hdrGet (updHeaders gz h body ct) kCT = some (nCT, ct) :=
  hdrGet_hdrSet_same _ _ _

theorem updHeaders_cl_get :
    hdrGet (updHeaders gz h body ct) kCL = some (nCL, natToDec (updBody gz h body).length) := by
  unfold updHeaders
  rw [hdrGet_hdrSet_ne _ _ _ _ kCL_ne_kCT, hdrGet_hdrSet_same]

theorem updHeaders_ce : (hdrGet (updHeaders gz h body ct) kCE).isSome = isGzip h := by
  unfold updHeaders
  rw [hdrGet_hdrSet_ne _ _ _ _ kCE_ne_kCT, hdrGet_hdrSet_ne _ _ _ _ kCE_ne_kCL]
  cases hz : isGzip h with
  | true =>
    unfold isGzip at hz
    cases hg : hdrGet h kCE with
    | none => rw [hg] at hz; cases hz
    | some nv => rw [if_pos rfl, hg]; rfl
  | false =>
    rw [if_neg Bool.false_ne_true, ← any_iff_hdrGet, hdrDel, List.any_filter]
    exact List.any_eq_false.2 (fun a _ => by rw [bne, Bool.not_and_self]; exact Bool.false_ne_true)

end upd

theorem isCL_key {h : Headers} (hi : hdrInvB h = true) {a : Bytes × (Bytes × Bytes)} (ha : a ∈ h) :
    isCL a.2 = (a.1 == kCL) := by
  rw [(hdrInvB_iff.1 hi).1.2 a ha]; rfl

theorem upd_exact (gz : Bytes → Bytes) (h : Headers) (body ct : Bytes) (hi : hdrInvB h = true)
    (hte : ∀ a ∈ h, a.1 ≠ kTE) :
    ExactCL (namesOf (updHeaders gz h body ct)) (updBody gz h body) := by
  have h1 := hdrInvB_ceDrop h hi
  refine ⟨?_, ?_, List.mem_map.2 ⟨(kCL, _), mem_hdrSet.2 (.inr ⟨mem_hdrSet.2 (.inl rfl), kCL_ne_kCT⟩), rfl⟩⟩
  · rintro e he
    obtain ⟨a, ha, rfl⟩ := List.mem_map.1 he
    rcases mem_hdrSet.1 ha with rfl | ⟨ha, -⟩
    · exact nCT_not_te
    rcases mem_hdrSet.1 ha with rfl | ⟨ha, -⟩
    · exact nCL_not_te
    · rw [← (hdrInvB_iff.1 h1).1.2 a ha]; exact hte a (mem_ceDrop h ha)
  · rintro e he hc
    obtain ⟨a, ha, rfl⟩ := List.mem_map.1 he
    rcases mem_hdrSet.1 ha with rfl | ⟨ha, -⟩
    · exact absurd hc (isCL_false_of (e := (nCT, ct)) nCT_not_cl ▸ Bool.false_ne_true)
    rcases mem_hdrSet.1 ha with rfl | ⟨ha, hne⟩
    · rfl
    · rw [isCL_key h1 ha] at hc; exact absurd (bytes_beq.1 hc) hne

theorem updCh_facts (h : Headers) (ct : Bytes) (hi : hdrInvB h = true) (hct : wfValue ct = true)
    (hte : ∃ a ∈ h, isTEChunked a.2 = true) :
    hdrInvB (updHeadersCh h ct) = true ∧
    (∃ e ∈ namesOf (updHeadersCh h ct), isTEChunked e = true) ∧
    (∀ e ∈ namesOf (updHeadersCh h ct), isCL e = false) := by
  have hinv := hdrInvB_updCh h ct hi hct
  obtain ⟨a, ha, hac⟩ := hte
  have hak : a.1 = kTE := by rw [(hdrInvB_iff.1 hi).1.2 a ha]; exact isTEChunked_key hac
  have hmemTE : a ∈ updHeadersCh h ct := by
    refine mem_hdrSet.2 (.inr ⟨List.mem_filter.2 ⟨?_, hak ▸ bytes_bne.2 kTE_ne_kCL⟩, hak ▸ kTE_ne_kCT⟩)
    split
    · exact ha
    · exact List.mem_filter.2 ⟨ha, hak ▸ bytes_bne.2 kTE_ne_kCE⟩
  refine ⟨hinv, ⟨a.2, List.mem_map.2 ⟨a, hmemTE, rfl⟩, hac⟩, ?_⟩
  rintro e he
  obtain ⟨c, hc, rfl⟩ := List.mem_map.1 he
  rw [isCL_key hinv hc]
  rcases mem_hdrSet.1 hc with rfl | ⟨hc, -⟩
  · exact bytes_beq_false.2 kCL_ne_kCT.symm
  · exact (Bool.not_eq_true' _).mp (List.mem_filter.1 hc).2

end Px.Codec

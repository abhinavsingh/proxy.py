import PxModel.Conn
/-! Lemmas about `Conn.queue` / `Conn.flush` (C01, C07).  `flush_cases` says what a flush can be;
    the other facts about `flush` are read off it. -/
namespace Px.Conn

theorem effMax_pos (m : Nat) : 0 < effMax m := by
  unfold effMax; split
  · decide
  · omega

theorem flush_sent (m : Nat) (c : Conn) (k : Nat) {mv : Bytes} {rest : List Bytes} (hb : c.buffer = mv :: rest)
    (n : Nat) (hn : n = min k (min (effMax m) mv.length)) :
    flush m c (.sent k) = ⟨{ c with buffer := if n = mv.length then rest else mv.drop n :: rest },
      some (mv.take (effMax m)), n, none⟩ := by
  unfold flush
  rw [hb, hn]
  dsimp only
  rw [List.length_take]
  split <;> rfl

/-- the exception with which a `send` of outcome `o` leaves `flush` -/
def excOf : SendOut → Option FlushExc
  | .brokenPipe => some .brokenPipe
  | .osError => some .osError
  | .sslWantWrite => some .sslWantWrite
  | _ => none

theorem flush_unsent (m : Nat) (c : Conn) (o : SendOut) (h : c.buffer = [] ∨ ∀ k, o ≠ .sent k) :
    flush m c o = ⟨c, c.buffer.head?.map (·.take (effMax m)), 0, if c.buffer.isEmpty then none else excOf o⟩ := by
  unfold flush
  cases hb : c.buffer with
  | nil => rfl
  | cons mv rest =>
    have h := h.resolve_left (by rw [hb]; nofun)
    cases o with
    | sent k => exact absurd rfl (h k)
    | _ => rfl

theorem flush_cases (m : Nat) (c : Conn) (o : SendOut) :
    flush m c o = ⟨c, c.buffer.head?.map (·.take (effMax m)), 0, if c.buffer.isEmpty then none else excOf o⟩ ∨
    ∃ k mv rest n, n = min k (min (effMax m) mv.length) ∧ c.buffer = mv :: rest ∧
      flush m c o = ⟨{ c with buffer := if n = mv.length then rest else mv.drop n :: rest },
        some (mv.take (effMax m)), n, none⟩ := by
  cases o with
  | sent k =>
    by_cases hb : c.buffer = []
    · exact .inl (flush_unsent m c _ (.inl hb))
    · obtain ⟨mv, rest, hb⟩ := List.exists_cons_of_ne_nil hb
      exact .inr ⟨k, mv, rest, _, rfl, hb, flush_sent m c k hb _ rfl⟩
  | _ => exact .inl (flush_unsent m c _ (.inr fun _ h => nomatch h))

theorem flush_wire_append (m : Nat) (c : Conn) (o : SendOut) :
    (flush m c o).wire ++ (flush m c o).conn.buffer.flatten = c.buffer.flatten := by
  rcases flush_cases m c o with h | ⟨k, mv, rest, n, hn, hb, h⟩ <;> rw [h]
  · rfl
  · simp only [hb, FlushRes.wire, Option.getD_some, List.take_take, List.flatten_cons]
    rw [Nat.min_eq_left (hn ▸ Nat.le_trans (Nat.min_le_right ..) (Nat.min_le_left ..))]
    split
    · rename_i h0; rw [h0, List.take_length]
    · rw [List.flatten_cons, ← List.append_assoc, List.take_append_drop]

theorem wire_length (m : Nat) (c : Conn) (o : SendOut) :
    (flush m c o).wire.length = (flush m c o).accepted := by
  rcases flush_cases m c o with h | ⟨k, mv, rest, n, hn, hb, h⟩ <;> rw [h]
  · rfl
  · simp only [FlushRes.wire, Option.getD_some, List.length_take]
    rw [hn]; exact Nat.min_eq_left (Nat.min_le_right ..)

theorem flush_drop (m : Nat) (c : Conn) (o : SendOut) :
    (flush m c o).conn.buffer.flatten = c.buffer.flatten.drop (flush m c o).accepted := by
  rw [← flush_wire_append m c o, ← wire_length m c o, List.drop_left]

theorem flush_offered_prefix (m : Nat) (c : Conn) (o : SendOut) (off : Bytes)
    (h : (flush m c o).offered = some off) : off <+: c.buffer.flatten := by
  rcases flush_cases m c o with e | ⟨k, mv, rest, n, hn, hb, e⟩ <;> rw [e] at h
  · cases hb : c.buffer with
    | nil => rw [hb] at h; exact nomatch h
    | cons mv rest => rw [hb] at h; cases h; exact (List.take_prefix _ _).trans (List.prefix_append _ _)
  · cases h; rw [hb]; exact (List.take_prefix _ _).trans (List.prefix_append _ _)

theorem flush_accepted (m : Nat) (c : Conn) (k : Nat) (mv : Bytes) (rest : List Bytes)
    (hb : c.buffer = mv :: rest) :
    (flush m c (.sent k)).accepted = min k (min (effMax m) mv.length) := by
  rw [flush_sent m c k hb _ rfl]

theorem flush_closed (m : Nat) (c : Conn) (o : SendOut) : (flush m c o).conn.closed = c.closed := by
  rcases flush_cases m c o with h | ⟨k, mv, rest, n, hn, hb, h⟩ <;> rw [h]

theorem flush_exc_conn (m : Nat) (c : Conn) (o : SendOut) (e : FlushExc)
    (h : (flush m c o).exc = some e) : (flush m c o).conn = c ∧ (flush m c o).wire = [] := by
  rcases flush_cases m c o with e | ⟨k, mv, rest, n, hn, hb, e⟩ <;> rw [e] at h ⊢
  · exact ⟨rfl, rfl⟩
  · exact nomatch h

theorem flush_exc (m : Nat) (c : Conn) (o : SendOut) :
    (flush m c o).exc = if c.buffer.isEmpty then none else excOf o := by
  unfold flush
  cases c.buffer with
  | nil => rfl
  | cons mv rest =>
    cases o with
    | sent k => dsimp only; split <;> rfl
    | _ => rfl

theorem flush_exc_iff (m : Nat) (c : Conn) (o : SendOut) :
    (flush m c o).exc ≠ none ↔ c.buffer ≠ [] ∧ (o = .brokenPipe ∨ o = .osError ∨ o = .sslWantWrite) := by
  rw [flush_exc]
  cases c.buffer with
  | nil => simp
  | cons mv rest => cases o <;> simp [excOf]

theorem flush_sent_exc (m : Nat) (c : Conn) (k : Nat) : (flush m c (.sent k)).exc = none := by
  rw [flush_exc]; split <;> rfl

theorem flush_exc_eq (m : Nat) (c : Conn) (o : SendOut) (x : FlushExc) (h : (flush m c o).exc = some x) :
    (x = .brokenPipe ∧ o = .brokenPipe) ∨ (x = .osError ∧ o = .osError) ∨
    (x = .sslWantWrite ∧ o = .sslWantWrite) := by
  rw [flush_exc] at h
  split at h
  · exact nomatch h
  · cases o <;> cases h
    · exact .inl ⟨rfl, rfl⟩
    · exact .inr (.inl ⟨rfl, rfl⟩)
    · exact .inr (.inr ⟨rfl, rfl⟩)

theorem flush_blocking (m : Nat) (c : Conn) : (flush m c .blocking).conn = c := by
  rw [flush_unsent m c .blocking (.inr fun _ h => nomatch h)]

theorem flush_buffer_shape (m : Nat) (c : Conn) (o : SendOut) :
    (flush m c o).conn.buffer = c.buffer ∨
    ∃ mv rest, c.buffer = mv :: rest ∧
      ((flush m c o).conn.buffer = rest ∨
       ∃ n, (flush m c o).conn.buffer = mv.drop n :: rest) := by
  rcases flush_cases m c o with h | ⟨k, mv, rest, n, hn, hb, h⟩ <;> rw [h]
  · exact .inl rfl
  · refine .inr ⟨mv, rest, hb, ?_⟩
    dsimp only
    split
    · exact .inl rfl
    · exact .inr ⟨n, rfl⟩

theorem flush_pending_le (m : Nat) (c : Conn) (o : SendOut) :
    pending (flush m c o).conn ≤ pending c := by
  rcases flush_cases m c o with h | ⟨k, mv, rest, n, hn, hb, h⟩ <;> rw [h]
  · exact Nat.le_refl _
  · unfold pending
    rw [hb]
    dsimp only
    clear hn
    split <;> simp only [List.flatten_cons, List.length_append, List.length_cons, List.length_drop] <;> omega

theorem flush_pending_lt (m : Nat) (c : Conn) (k : Nat) (h : c.buffer ≠ []) :
    pending (flush m c (.sent (k + 1))).conn < pending c := by
  obtain ⟨mv, rest, hb⟩ := List.exists_cons_of_ne_nil h
  have hm := effMax_pos m
  generalize hn : min (k + 1) (min (effMax m) mv.length) = n
  have h1 : n ≤ mv.length := hn ▸ Nat.le_trans (Nat.min_le_right ..) (Nat.min_le_right ..)
  have h2 : mv.length ≠ 0 → 0 < n := fun h0 =>
    hn ▸ Nat.lt_min.mpr ⟨Nat.succ_pos k, Nat.lt_min.mpr ⟨hm, Nat.pos_of_ne_zero h0⟩⟩
  rw [flush_sent m c _ hb n hn.symm]
  clear hn
  unfold pending
  rw [hb]
  dsimp only
  split <;> simp only [List.flatten_cons, List.length_append, List.length_cons, List.length_drop] <;> omega

theorem flush_bytes_lt (m : Nat) (c : Conn) (k : Nat) (mv : Bytes) (rest : List Bytes)
    (hb : c.buffer = mv :: rest) (hne : mv ≠ []) :
    (flush m c (.sent (k + 1))).conn.buffer.flatten.length < c.buffer.flatten.length := by
  have hl : 0 < mv.length := List.length_pos_iff.mpr hne
  have hn : 0 < min (k + 1) (min (effMax m) mv.length) :=
    Nat.lt_min.mpr ⟨Nat.succ_pos k, Nat.lt_min.mpr ⟨effMax_pos m, hl⟩⟩
  rw [flush_drop, flush_accepted m c (k + 1) mv rest hb, hb, List.length_drop, List.flatten_cons, List.length_append]
  exact Nat.sub_lt (Nat.add_pos_left hl _) hn

theorem queue_flatten (c : Conn) (b : Bytes) : (c.queue b).buffer.flatten = c.buffer.flatten ++ b := by
  simp [queue]

theorem queue_hasBuffer (c : Conn) (b : Bytes) : (c.queue b).hasBuffer = true := by
  simp [queue, hasBuffer]

theorem hasBuffer_false_iff (c : Conn) : c.hasBuffer = false ↔ c.buffer = [] := by
  simp [hasBuffer]

theorem hasBuffer_true_iff (c : Conn) : c.hasBuffer = true ↔ c.buffer ≠ [] := by
  simp [hasBuffer]

theorem hasBuffer_append_false (c c' : Conn) (extra : List Bytes)
    (h : c'.buffer = c.buffer ++ extra) (he : c'.hasBuffer = false) : c.hasBuffer = false := by
  simp [hasBuffer, h] at he ⊢; exact he.1

theorem recv_seg (o : RecvOut) (b : Bytes) (h : Conn.recv o = .seg b) : o = .data b ∧ b ≠ [] := by
  cases o with
  | data d =>
    unfold Conn.recv at h
    dsimp only at h
    split at h
    · cases h
    · rename_i hd; cases h; exact ⟨rfl, fun h0 => hd (by rw [h0]; rfl)⟩
  | _ => cases h

/-- no queued element is the empty byte string -/
def NoEmpty (c : Conn) : Prop := ∀ e ∈ c.buffer, e ≠ []

theorem flush_noEmpty (m : Nat) (c : Conn) (o : SendOut) (h : NoEmpty c) : NoEmpty (flush m c o).conn := by
  rcases flush_cases m c o with e | ⟨k, mv, rest, n, hn, hb, e⟩ <;> rw [e]
  · exact h
  · have h1 : n ≤ mv.length := hn ▸ Nat.le_trans (Nat.min_le_right ..) (Nat.min_le_right ..)
    clear hn
    unfold NoEmpty at h ⊢
    rw [hb] at h
    dsimp only
    split
    · exact fun e he => h e (.tail _ he)
    · rename_i hne
      intro e he
      rcases List.mem_cons.mp he with rfl | he
      · intro hd
        have := congrArg List.length hd
        rw [List.length_drop, List.length_nil] at this
        omega
      · exact h e (.tail _ he)

theorem queue_noEmpty (c : Conn) (b : Bytes) (h : NoEmpty c) (hb : b ≠ []) : NoEmpty (c.queue b) := by
  intro e he
  rcases List.mem_append.mp he with he | he
  · exact h e he
  · cases List.mem_singleton.mp he; exact hb

end Px.Conn

import PxModel.FirstRequest
/-! The first-request phase of the handler model (`PxModel/FirstRequest.lean`): the decision table of
    one `handle_data` call, and from it the shape of a whole run of segments. -/
namespace Px.First

open Px.Parser (Parser)

/-- plugin contract (proxy/http/exception/base.py): hooks raise only `HttpProtocolException`s -/
def NoCrash (cfg : Cfg) : Prop :=
  (∀ pid p q, cfg.onComplete pid p ≠ .crash q) ∧ (∀ pid k d q, cfg.onClientData pid k d ≠ .crash q)

/-- The decision table of `handle_data` in the first-request phase: which outcome, under
    which (mutually exclusive, exhaustive) condition, with which effect on the client buffer,
    the selected plugin and the return value.  A served request whose plugin returned False
    hands the bytes that followed it in the same segment (`leftover`) to the plugin's
    `on_client_data` within the same call (fix 84c574d). -/
def Spec (cfg : Cfg) (st : St) (data : Bytes) (res : St × Outcome × Bool) : Prop :=
  let st' := res.1
  let ret := res.2.2
  match res.2.1 with
  | .wait =>
    (∃ rq, reqParse cfg st data = .ok rq ∧ rq.state ≠ .complete ∧ st'.request = rq) ∧
      ret = false ∧ st'.buffer = st.buffer ∧ st'.plugin = st.plugin ∧ st'.escaped = st.escaped
  | .served pid td =>
    ∃ rq q, reqParse cfg st data = .ok rq ∧ rq.state = .complete ∧
      st'.request.state = .complete ∧
      handlerProtocol rq ≠ .unknown ∧ discover cfg.plugins (handlerProtocol rq).num = some pid ∧
      cfg.onComplete pid rq = .ret q td ∧
      ret = td ∧ st'.plugin = some pid ∧ st'.escaped = st.escaped ∧
      (((td = true ∨ leftover rq = none) ∧ st'.request = rq ∧ st'.buffer = st.buffer ++ q ∧ st'.calls = st.calls) ∨
       (∃ rem q2 t2, td = false ∧ leftover rq = some rem ∧ cfg.onClientData pid st.calls rem = .ret q2 t2 ∧
          st'.request = { rq with buffer := none } ∧ st'.buffer = st.buffer ++ q ++ q2 ∧ st'.calls = st.calls + 1))
  | .reject why hq =>
    ret = true ∧ st'.escaped = st.escaped ∧
    (match why with
     | .parse e =>
       reqParse cfg st data = .error e ∧ hq = [cfg.badRequest] ∧
         st'.buffer = st.buffer ++ [cfg.badRequest] ∧ st'.plugin = st.plugin
     | .unknownProtocol =>
       (∃ rq, reqParse cfg st data = .ok rq ∧ rq.state = .complete ∧
         handlerProtocol rq = .unknown) ∧ hq = [cfg.badRequest] ∧
         st'.buffer = st.buffer ++ [cfg.badRequest] ∧ st'.plugin = st.plugin
     | .noPlugin proto =>
       (∃ rq, reqParse cfg st data = .ok rq ∧ rq.state = .complete ∧
         handlerProtocol rq = proto ∧ proto ≠ .unknown ∧ discover cfg.plugins proto.num = none) ∧
         hq = [cfg.badRequest] ∧ st'.buffer = st.buffer ++ [cfg.badRequest] ∧ st'.plugin = st.plugin
     | .pluginRaised pid =>
       ∃ rq q resp, reqParse cfg st data = .ok rq ∧ rq.state = .complete ∧
         discover cfg.plugins (handlerProtocol rq).num = some pid ∧ hq = respQueue resp ∧ st'.plugin = some pid ∧
         ((cfg.onComplete pid rq = .raise q resp ∧ st'.buffer = st.buffer ++ q ++ hq) ∨
          (∃ q1 rem, cfg.onComplete pid rq = .ret q1 false ∧ leftover rq = some rem ∧
             cfg.onClientData pid st.calls rem = .raise q resp ∧ st'.buffer = st.buffer ++ q1 ++ q ++ hq)))
  | .escaped pid =>
    ∃ rq q, reqParse cfg st data = .ok rq ∧ st'.escaped = true ∧
      ((cfg.onComplete pid rq = .crash q ∧ st'.buffer = st.buffer ++ q) ∨
       (∃ q1 rem, cfg.onComplete pid rq = .ret q1 false ∧ leftover rq = some rem ∧
          cfg.onClientData pid st.calls rem = .crash q ∧ st'.buffer = st.buffer ++ q1 ++ q))
  | .data _ => False
  | .ignored => False

theorem parseFirst_spec (cfg : Cfg) (st : St) (data : Bytes) : Spec cfg st data (parseFirst cfg st data) := by
  unfold parseFirst
  cases hp : reqParse cfg st data with
  | error e => exact ⟨rfl, rfl, hp, rfl, rfl, rfl⟩
  | ok rq =>
    simp only
    by_cases hc : rq.state = .complete
    · rw [if_neg (by simpa using hc)]
      by_cases hu : handlerProtocol rq = .unknown
      · rw [if_pos (by simpa using hu)]
        exact ⟨rfl, rfl, ⟨rq, hp, hc, hu⟩, rfl, rfl, rfl⟩
      · rw [if_neg (by simpa using hu)]
        cases hd : discover cfg.plugins (handlerProtocol rq).num with
        | none => exact ⟨rfl, rfl, ⟨rq, hp, hc, rfl, hu, hd⟩, rfl, rfl, rfl⟩
        | some pid =>
          simp only
          cases ho : cfg.onComplete pid rq with
          | ret q td =>
            cases td with
            | true => exact ⟨rq, q, hp, hc, hc, hu, hd, ho, rfl, rfl, rfl, Or.inl ⟨Or.inl rfl, rfl, rfl, rfl⟩⟩
            | false =>
              cases hl : leftover rq with
              | none => exact ⟨rq, q, hp, hc, hc, hu, hd, ho, rfl, rfl, rfl, Or.inl ⟨Or.inr hl, rfl, rfl, rfl⟩⟩
              | some rem =>
                simp only
                cases h2 : cfg.onClientData pid st.calls rem with
                | ret q2 t2 =>
                  exact ⟨rq, q, hp, hc, hc, hu, hd, ho, rfl, rfl, rfl, Or.inr ⟨rem, q2, t2, rfl, hl, h2, rfl, rfl, rfl⟩⟩
                | raise q2 resp =>
                  exact ⟨rfl, rfl, rq, q2, resp, hp, hc, hd, rfl, rfl, Or.inr ⟨q, rem, ho, hl, h2, rfl⟩⟩
                | crash q2 => exact ⟨rq, q2, hp, rfl, Or.inr ⟨q, rem, ho, hl, h2, rfl⟩⟩
          | raise q resp => exact ⟨rfl, rfl, rq, q, resp, hp, hc, hd, rfl, rfl, Or.inl ⟨ho, rfl⟩⟩
          | crash q => exact ⟨rq, q, hp, rfl, Or.inl ⟨ho, rfl⟩⟩
    · rw [if_pos (by simpa using hc)]
      exact ⟨⟨rq, hp, hc, rfl⟩, rfl, rfl, rfl, rfl⟩

theorem afterPlugin_flags (st : St) (pid : Nat) (res : PluginRes) (f : Bool → Outcome) (g : Bool → Bool) :
    (afterPlugin st pid res f g).1.mustFlush = st.mustFlush ∧ (afterPlugin st pid res f g).1.teardown = st.teardown := by
  cases res <;> exact ⟨rfl, rfl⟩

theorem parseFirst_flags (cfg : Cfg) (st : St) (data : Bytes) :
    (parseFirst cfg st data).1.mustFlush = st.mustFlush ∧ (parseFirst cfg st data).1.teardown = st.teardown := by
  unfold parseFirst
  cases reqParse cfg st data with
  | error e => exact ⟨rfl, rfl⟩
  | ok rq =>
    simp only
    by_cases hc : (rq.state != .complete) = true
    · rw [if_pos hc]; exact ⟨rfl, rfl⟩
    · rw [if_neg hc]
      by_cases hu : (handlerProtocol rq == .unknown) = true
      · rw [if_pos hu]; exact ⟨rfl, rfl⟩
      · rw [if_neg hu]
        cases discover cfg.plugins (handlerProtocol rq).num with
        | none => exact ⟨rfl, rfl⟩
        | some pid => simp only; split <;> exact afterPlugin_flags _ _ _ _ _

theorem handleData_first (cfg : Cfg) (st : St) (data : Bytes) (h : st.request.state ≠ .complete) :
    handleData cfg st data = parseFirst cfg st data := by
  unfold handleData
  have : (st.request.state != Px.Parser.PState.complete) = true := by simpa using h
  simp [this]

theorem handleData_data (cfg : Cfg) (st : St) (data : Bytes) (pid : Nat) (hc : st.request.state = .complete)
    (hp : st.plugin = some pid) :
    handleData cfg st data =
      afterPlugin { st with calls := st.calls + 1 } pid (cfg.onClientData pid st.calls data)
        (fun _ => .data pid) (fun _ => false) := by
  unfold handleData
  simp [hc, hp]

theorem feed_not_reading (cfg : Cfg) (st : St) (data : Bytes) (h : reading st = false) :
    feed cfg st data = (st, none) := by
  unfold feed; simp [h]

theorem run_not_reading (cfg : Cfg) (st : St) (segs : List Bytes) (h : reading st = false) :
    run cfg st segs = (st, segs.map (fun _ => none)) := by
  induction segs with
  | nil => rfl
  | cons x xs ih => simp [run, feed_not_reading cfg st x h, ih]

theorem tick_eq (cfg : Cfg) (st : St) (data : Bytes) :
    tick cfg st data =
      (let r := handleData cfg st data
       let s := r.1
       (if s.escaped then s
        else if r.2.2 then (if !s.buffer.isEmpty then { s with mustFlush := true } else { s with teardown := true })
        else s, r.2.1)) := by
  unfold tick
  rcases handleData cfg st data with ⟨s, o, r⟩
  simp only [apply_ite (fun x : St => (x, o))]

theorem tick_stops (cfg : Cfg) (st : St) (data : Bytes)
    (h : (handleData cfg st data).2.2 = true ∨ (handleData cfg st data).1.escaped = true) :
    reading (tick cfg st data).1 = false := by
  rw [tick_eq]
  simp only
  by_cases he : (handleData cfg st data).1.escaped = true
  · simp [he, reading]
  · have hr := h.resolve_right he
    simp only [he, Bool.false_eq_true, if_false, hr, if_true]
    split <;> simp [reading, readInterest]

theorem tick_continues (cfg : Cfg) (st : St) (data : Bytes)
    (h : (handleData cfg st data).2.2 = false) (he : (handleData cfg st data).1.escaped = false) :
    (tick cfg st data).1 = (handleData cfg st data).1 := by
  rw [tick_eq]; simp [h, he]

theorem tick_outcome (cfg : Cfg) (st : St) (data : Bytes) :
    (tick cfg st data).2 = (handleData cfg st data).2.1 := by
  rw [tick_eq]

/-- every remaining segment is left unread -/
def Closed : List (Option Outcome) → Prop
  | [] => True
  | none :: t => Closed t
  | some _ :: _ => False

/-- after the first request was served by plugin `pid`: segments go to its `on_client_data`
    until it raises (→ reject) or crashes; nothing is read afterwards -/
def DataShape (pid : Nat) : List (Option Outcome) → Prop
  | [] => True
  | some (.data p) :: t => p = pid ∧ DataShape pid t
  | some (.reject (.pluginRaised p) _) :: t => p = pid ∧ Closed t
  | some (.escaped p) :: t => p = pid ∧ Closed t
  | _ :: _ => False

/-- a connection from its first byte: `wait`s, then at most one of served / reject
    (/ escaped, if a plugin breaks its contract); after a reject, or a served request
    whose plugin asked for teardown, nothing more is read -/
def FirstShape : List (Option Outcome) → Prop
  | [] => True
  | some .wait :: t => FirstShape t
  | some (.served pid td) :: t => if td then Closed t else DataShape pid t
  | some (.reject _ _) :: t => Closed t
  | some (.escaped _) :: t => Closed t
  | _ :: _ => False

theorem closed_of_stop (cfg : Cfg) (st : St) (x : Bytes) (xs : List Bytes)
    (h : (handleData cfg st x).2.2 = true ∨ (handleData cfg st x).1.escaped = true) :
    Closed (run cfg (tick cfg st x).1 xs).2 := by
  rw [run_not_reading cfg _ xs (tick_stops cfg st x h)]
  induction xs with
  | nil => trivial
  | cons _ _ ih => exact ih

theorem not_escaped_of_reading {st : St} (h : reading st = true) : st.escaped = false := by
  simp only [reading, Bool.and_eq_true, Bool.not_eq_true'] at h
  exact h.1.2

theorem reading_congr {s t : St} (h1 : s.teardown = t.teardown) (h2 : s.escaped = t.escaped)
    (h3 : s.mustFlush = t.mustFlush) : reading s = reading t := by
  simp only [reading, readInterest, h1, h2, h3]

theorem run_cons_reading (cfg : Cfg) (st : St) (x : Bytes) (xs : List Bytes) (hr : reading st = true) :
    (run cfg st (x :: xs)).2 = some (handleData cfg st x).2.1 :: (run cfg (tick cfg st x).1 xs).2 := by
  simp only [run, feed, hr, if_true, tick_outcome]

theorem run_dataShape (cfg : Cfg) (pid : Nat) (segs : List Bytes) (st : St)
    (hc : st.request.state = .complete) (hp : st.plugin = some pid) (hr : reading st = true) :
    DataShape pid (run cfg st segs).2 := by
  induction segs generalizing st with
  | nil => trivial
  | cons x xs ih =>
    rw [run_cons_reading cfg st x xs hr]
    have hd := handleData_data cfg st x pid hc hp
    generalize cfg.onClientData pid st.calls x = res at hd
    cases res with
    | ret q td =>
      rw [tick_continues cfg st x (by rw [hd]; rfl) (by rw [hd]; exact not_escaped_of_reading hr), hd]
      exact ⟨rfl, ih _ hc hp hr⟩
    | raise q resp =>
      rw [hd]
      exact ⟨rfl, closed_of_stop cfg st x xs (Or.inl (by rw [hd]; rfl))⟩
    | crash q =>
      rw [hd]
      exact ⟨rfl, closed_of_stop cfg st x xs (Or.inr (by rw [hd]; rfl))⟩

theorem run_firstShape (cfg : Cfg) (segs : List Bytes) (st : St)
    (hc : st.request.state ≠ .complete) (hr : reading st = true) :
    FirstShape (run cfg st segs).2 := by
  induction segs generalizing st with
  | nil => trivial
  | cons x xs ih =>
    rw [run_cons_reading cfg st x xs hr]
    have hspec := parseFirst_spec cfg st x
    have hfl := parseFirst_flags cfg st x
    rw [← handleData_first cfg st x hc] at hspec hfl
    have hesc := not_escaped_of_reading hr
    have hgo : (handleData cfg st x).2.2 = false → (handleData cfg st x).1.escaped = st.escaped →
        (tick cfg st x).1 = (handleData cfg st x).1 ∧ reading (handleData cfg st x).1 = true :=
      fun hret he => ⟨tick_continues cfg st x hret (he.trans hesc), (reading_congr hfl.2 he hfl.1).trans hr⟩
    have hstop := closed_of_stop cfg st x xs
    generalize handleData cfg st x = res at hspec hgo hstop
    obtain ⟨st', o, ret⟩ := res
    cases o with
    | wait =>
      obtain ⟨⟨rq, _, hnc, hrq⟩, hret, _, _, he⟩ := hspec
      obtain ⟨ht, hr'⟩ := hgo hret he
      rw [ht]
      exact ih st' (hrq ▸ hnc) hr'
    | served pid td =>
      obtain ⟨rq, q, _, _, hcomp, _, _, _, hret, hplug, he, _⟩ := hspec
      cases td with
      | true => exact hstop (Or.inl hret)
      | false =>
        obtain ⟨ht, hr'⟩ := hgo hret he
        rw [ht]
        exact run_dataShape cfg pid xs st' hcomp hplug hr'
    | reject why hq => exact hstop (Or.inl hspec.1)
    | escaped pid =>
      obtain ⟨_, _, _, he, _⟩ := hspec
      exact hstop (Or.inr he)
    | data _ => exact hspec.elim
    | ignored => exact hspec.elim

end Px.First

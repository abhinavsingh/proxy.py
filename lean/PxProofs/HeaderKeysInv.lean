import PxModel.Parser
import PxProofs.BuildLemmas
import PxProofs.ParserLoop
/-!
# The header map of any parser reached from a fresh one (C15)

`KeysInv`: keys are unique and each key is the lower-cased original name stored with it.
`parseAll_keysInv`: it holds after any sequence of `parse` calls on a fresh parser — so the
"case-insensitively unique names" part of the rebuild guard (`hdrInvB`) is automatic.
-/
namespace Px.Codec

open Px.Parser

def KeysInv (h : Headers) : Prop := (h.map (·.1)).Nodup ∧ ∀ e ∈ h, e.1 = lower e.2.1

def PInv (p : Parser) : Prop := ∀ h, p.headers = some h → KeysInv h

theorem keysInv_nil : KeysInv [] := ⟨List.nodup_nil, nofun⟩

theorem keysInv_hdrSet {h : Headers} (hi : KeysInv h) (k v : Bytes) : KeysInv (hdrSet h (lower k) (k, v)) := by
  refine ⟨nodup_keys_hdrSet hi.1 _ _, fun e he => ?_⟩
  rcases mem_hdrSet.1 he with rfl | ⟨he, -⟩
  · rfl
  · exact hi.2 e he

theorem pinv_addHeader {p : Parser} (hi : PInv p) (k v : Bytes) : PInv (addHeader p k v) := by
  intro h hh
  simp only [addHeader, Option.some.injEq] at hh
  subst hh
  apply keysInv_hdrSet
  cases hp : p.headers with
  | none => exact keysInv_nil
  | some h0 => exact hi h0 hp

theorem pinv_of_headers_eq {p q : Parser} (hi : PInv p) (h : q.headers = p.headers) : PInv q :=
  fun x hx => hi x (h ▸ hx)

theorem processHeader_eq_hdrApply (p : Parser) (line : Bytes) : ∃ k v, processHeader p line = hdrApply p k v := by
  unfold processHeader hdrApply
  split
  exact ⟨_, _, rfl⟩

theorem pinv_processHeader {p q : Parser} {line : Bytes} (hi : PInv p) (h : processHeader p line = .ok q) :
    PInv q := by
  obtain ⟨k, v, e⟩ := processHeader_eq_hdrApply p line
  obtain ⟨ce, rfl, -⟩ := hdrApply_ok (e ▸ h)
  exact pinv_of_headers_eq (pinv_addHeader hi k v) rfl

theorem pinv_hdrStep {p q : Parser} {line : Bytes} (h : hdrStep p line = .ok q) (hi : PInv p) : PInv q := by
  unfold hdrStep at h
  split at h
  · split at h
    · cases h; exact pinv_of_headers_eq hi rfl
    · exact pinv_processHeader (p := { p with state := .rcvingHeaders }) (pinv_of_headers_eq hi rfl) h
  · cases h; exact hi

theorem post_headers (t : Parser × Bool × Bytes) : (post t).1.headers = t.1.headers := by
  unfold post
  split
  · rfl
  · split <;> rfl

/-- only the header step writes the header map -/
theorem pinv_stepOnce (cfg : Cfg) {p q : Parser} {raw : Bytes} {m : Bool} {r : Bytes} (hi : PInv p)
    (h : stepOnce cfg p raw = .ok (q, m, r)) : PInv q := by
  rcases stepOnce_keeps (R := fun p q => PInv p → PInv q) (fun _ h => h) (fun f g h => g (f h)) pinv_hdrStep
    (fun hb hi => by obtain ⟨_, _, _, rfl, -⟩ := processBody_writes hb; exact pinv_of_headers_eq hi rfl)
    (fun t hi => pinv_of_headers_eq hi (post_headers t)) cfg h with hk | ⟨-, line, q1, hl, hk⟩
  · exact hk hi
  · exact hk (pinv_of_headers_eq hi (lineStep_spec hl).headers)

theorem pinv_parse (cfg : Cfg) {p q : Parser} {raw : Bytes} (hi : PInv p) (h : parse cfg p raw = .ok q) : PInv q :=
  parse_preserves cfg (fun _ _ _ hi => pinv_of_headers_eq hi rfl) (fun hi _ hs => pinv_stepOnce cfg hi hs) hi h

theorem parseAll_keysInv (cfg : Cfg) (ty : PType) (segs : List Bytes) {q : Parser}
    (h : parseAll cfg (init ty) segs = .ok q) : PInv q :=
  parseAll_preserves cfg (fun hi hp => pinv_parse cfg hi hp) (p := init ty) (fun _ hx => nomatch hx) h

end Px.Codec

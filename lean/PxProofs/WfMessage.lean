import PxProofs.RebuildThms
/-!
# `WF_message`: a decidable well-formedness check independent of `HttpParser.parse` (C15)

`wfMessage isReq raw` reads `raw` the way a strict receiver would (it shares the line and split primitives
`splitCRLF`, `splitOnce1`, `splitN1`, the header predicates and the hex reader with the parser model, not `parse`):
start line without CR / LF and with its three (responses: two or three) SP-separated parts non-empty;
header lines exactly `name ":" SP value CRLF` with `wfName` / `wfValue`; a blank line; then a payload
consistent with the framing the headers announce:
* `Transfer-Encoding: chunked` present → the payload is exactly one chunked body of RFC 7230 §4.1
  (`chunkedOK`: 1*HEXDIG size, optional extension, data, CRLF, … last-chunk, CRLF — **the empty body
  still needs `0 CRLF CRLF`**; no trailer part; nothing after it);
* else some `content-length` present → every such header is the decimal text of the payload length;
* else → requests have no payload (responses are delimited by connection close).
Rendered packets with headers in the guard pass (`wfMessage_pkt`), and so does the encoder's output for every body
and chunk size (`chunkedOK_toChunks`).
-/
namespace Px.Codec

open Px.Parser Px.Build
open Px.Chunk (ChunkedStream)

/-- exactly one chunked body (no trailer part), nothing after it -/
def chunkedOK : Nat → Bytes → Bool
  | 0, _ => false
  | fuel + 1, x =>
    match splitCRLF x with
    | none => false
    | some (line, rest) =>
      let sz := line.takeWhile isHexDig
      let ext := line.dropWhile isHexDig
      if sz.isEmpty || !extOk ext then false
      else
        let n := hexValue sz
        if n == 0 then rest == CRLF
        else decide (n + 2 ≤ rest.length) && (rest.drop n).take 2 == CRLF && chunkedOK fuel (rest.drop (n + 2))

/-- one header line `name ":" SP value` -/
def hdrLineOK (line : Bytes) : Option (Bytes × Bytes) :=
  match splitOnce1 COLON line with
  | some (k, c :: v) => if c == SP && wfName k && wfValue v then some (k, v) else none
  | _ => none

/-- header lines up to the blank line: the headers read and what follows the blank line -/
def hdrBlock : Nat → Bytes → HDict → Option (HDict × Bytes)
  | 0, _, _ => none
  | fuel + 1, raw, acc =>
    match splitCRLF raw with
    | none => none
    | some (line, rest) =>
      if line.isEmpty then some (acc.reverse, rest)
      else match hdrLineOK line with
        | some kv => hdrBlock fuel rest (kv :: acc)
        | none => none

def framingOK (isReq : Bool) (H : HDict) (B : Bytes) : Bool :=
  if H.any isTEChunked then chunkedOK (B.length + 1) B
  else if H.any isCL then H.all (fun e => !isCL e || e.2 == natToDec B.length)
  else !isReq || B.isEmpty

def startLineOK (isReq : Bool) (line : Bytes) : Bool :=
  line.all (fun c => c != 13 && c != 10) &&
    (match splitN1 SP 2 line with
     | [a, c, d] => !a.isEmpty && !c.isEmpty && !d.isEmpty
     | [a, c] => !isReq && !a.isEmpty && !c.isEmpty
     | _ => false)

def wfMessage (isReq : Bool) (raw : Bytes) : Bool :=
  match splitCRLF raw with
  | none => false
  | some (line, rest) =>
    startLineOK isReq line &&
      (match hdrBlock (rest.length + 1) rest [] with
       | some (H, B) => framingOK isReq H B
       | none => false)

theorem chunkedOK_sizeLine {sz : Bytes} (hne : sz ≠ []) (hd : ∀ c ∈ sz, isHexDig c = true) (rest : Bytes) (f : Nat) :
    chunkedOK (f + 1) (sz ++ CRLF ++ rest) =
      if hexValue sz == 0 then rest == CRLF
      else decide (hexValue sz + 2 ≤ rest.length) && (rest.drop (hexValue sz)).take 2 == CRLF &&
        chunkedOK f (rest.drop (hexValue sz + 2)) := by
  have hsp : splitCRLF sz = none := splitCRLF_none_of_noCR (fun c hc =>
    isDigitIn_ne (hexDig_spec c (hd c hc)).1 rfl)
  obtain ⟨htw, hdw⟩ := takeWhile_all isHexDig sz hd
  rw [chunkedOK, splitCRLF_render hsp]
  simp only [htw, hdw, List.isEmpty_eq_false_iff.2 hne, show extOk [] = true from rfl, Bool.not_true, Bool.or_self,
    Bool.false_eq_true, if_false]

theorem chunkedOK_chunk {sz data : Bytes} (hne : sz ≠ []) (hd : ∀ c ∈ sz, isHexDig c = true)
    (hv : hexValue sz = data.length) (hdata : data ≠ []) (rest : Bytes) (f : Nat) :
    chunkedOK (f + 1) (sz ++ CRLF ++ (data ++ CRLF ++ rest)) = chunkedOK f rest := by
  have hlen : (data ++ CRLF).length = data.length + 2 := List.length_append
  have hle : data.length + 2 ≤ (data ++ (CRLF ++ rest)).length := by
    rw [List.length_append, List.length_append]; exact Nat.add_le_add_left (Nat.le_add_right 2 _) _
  rw [chunkedOK_sizeLine hne hd, hv, if_neg (fun h => hdata (List.eq_nil_of_length_eq_zero (beq_iff_eq.1 h))),
    List.drop_left' hlen, List.append_assoc,
    List.drop_left, decide_eq_true hle, show (CRLF ++ rest).take 2 = CRLF from rfl, bytes_beq_self,
    Bool.true_and, Bool.true_and]

theorem chunkedOK_last (f : Nat) : chunkedOK (f + 1) ((ChunkedStream.last [48] []).render) = true := by rfl

theorem chunkedOK_chunksOf (size : Nat) (hs : 0 < size) (fuel : Nat) (raw : Bytes) (cf : Nat)
    (hcf : raw.length < cf) : chunkedOK cf (chunksOf size fuel raw).render = true := by
  induction fuel generalizing raw cf with
  | zero =>
    cases cf with
    | zero => exact absurd hcf (Nat.not_lt_zero _)
    | succ cf => exact chunkedOK_last cf
  | succ fuel ih =>
    cases cf with
    | zero => exact absurd hcf (Nat.not_lt_zero _)
    | succ cf =>
      rw [chunksOf]
      split
      · exact chunkedOK_last cf
      · rename_i he
        have hne : raw ≠ [] := fun h => he (h ▸ rfl)
        have hk : raw.take size ≠ [] := fun h => (List.take_eq_nil_iff.1 h).elim (Nat.ne_of_gt hs) hne
        rw [ChunkedStream.render, List.append_nil,
          chunkedOK_chunk (natToHex_ne_nil _) (natToHex_isHexDig _) (hexValue_natToHex _) hk]
        refine ih _ cf ?_
        rw [List.length_drop]
        exact Nat.lt_of_lt_of_le (Nat.sub_lt (List.length_pos_iff.2 hne) hs) (Nat.le_of_lt_succ hcf)

theorem decoded_le_render (s : ChunkedStream) : s.decoded.length ≤ s.render.length := by
  induction s with
  | last sz ext => exact Nat.zero_le _
  | chunk sz ext data rest ih =>
    simp only [ChunkedStream.decoded, ChunkedStream.render, List.length_append]; omega

theorem chunkedOK_toChunks (body : Bytes) (n : Nat) (hn : 0 < n) :
    ∃ enc, Px.Chunk.toChunks body n = .ok enc ∧ chunkedOK (enc.length + 1) enc = true := by
  refine ⟨_, toChunks_render body n (by omega), chunkedOK_chunksOf n hn _ _ _ ?_⟩
  have := decoded_le_render (chunksOf n body.length body)
  rw [chunksOf_decoded n hn _ _ (Nat.le_refl _)] at this
  omega

theorem hdrLineOK_render {k v : Bytes} (hk : wfName k = true) (hv : wfValue v = true) :
    hdrLineOK (buildHeader k v) = some (k, v) := by
  rw [hdrLineOK, splitOnce1_buildHeader (hdrOK_of_wf hk hv).1]
  show (if (SP == SP && wfName k && wfValue v) = true then some (k, v) else none) = some (k, v)
  rw [hk, hv]; rfl

theorem hdrBlock_blank (f : Nat) (B : Bytes) (acc : HDict) :
    hdrBlock (f + 1) (CRLF ++ B) acc = some (acc.reverse, B) := by
  rw [hdrBlock, show splitCRLF (CRLF ++ B) = some ([], B) from splitCRLF_render (l := []) rfl B]
  rfl

theorem hdrBlock_line {k v : Bytes} (hk : wfName k = true) (hv : wfValue v = true) (f : Nat) (rest : Bytes)
    (acc : HDict) : hdrBlock (f + 1) (buildHeader k v ++ CRLF ++ rest) acc = hdrBlock f rest ((k, v) :: acc) := by
  have hne : (buildHeader k v).isEmpty = false := by simp [buildHeader]
  rw [hdrBlock, splitCRLF_render (hdrOK_of_wf hk hv).2.2.2]
  simp only [hne, Bool.false_eq_true, if_false, hdrLineOK_render hk hv]

theorem hdrBlock_render (H : HDict) (hH : wfHeaders H = true) (B : Bytes) (acc : HDict) (fuel : Nat)
    (hf : H.length < fuel) :
    hdrBlock fuel (renderHdrs H ++ CRLF ++ B) acc = some (acc.reverse ++ H, B) := by
  induction H generalizing acc fuel with
  | nil =>
    cases fuel with
    | zero => exact absurd hf (Nat.not_lt_zero _)
    | succ f => rw [show renderHdrs [] ++ CRLF ++ B = CRLF ++ B from rfl, hdrBlock_blank, List.append_nil]
  | cons e H ih =>
    obtain ⟨k, v⟩ := e
    cases fuel with
    | zero => exact absurd hf (Nat.not_lt_zero _)
    | succ f =>
      have hkv := wfHeaders_mem hH (e := (k, v)) List.mem_cons_self
      rw [renderHdrs_cons, List.append_assoc, List.append_assoc, ← List.append_assoc (renderHdrs H),
        hdrBlock_line hkv.1 hkv.2, ih (Bool.and_eq_true_iff.1 hH).2 _ f (Nat.lt_of_succ_lt_succ hf),
        List.reverse_cons, List.append_assoc, List.singleton_append]

theorem wfMessage_pkt (isReq : Bool) (line : Bytes) (H : HDict) (B : Bytes)
    (hl : startLineOK isReq line = true) (hH : wfHeaders H = true) (hf : framingOK isReq H B = true) :
    wfMessage isReq (line ++ CRLF ++ (renderHdrs H ++ CRLF ++ B)) = true := by
  have hnocr : splitCRLF line = none := splitCRLF_none_of_noCR (fun c hc heq => by
    have := (Bool.and_eq_true_iff.1 (List.all_eq_true.1 (Bool.and_eq_true_iff.1 hl).1 c hc)).1
    rw [heq] at this; cases this)
  unfold wfMessage
  rw [splitCRLF_render hnocr]
  have hlen : H.length < (renderHdrs H ++ CRLF ++ B).length + 1 := by
    rw [List.append_assoc, List.length_append]
    exact Nat.lt_succ_of_le (Nat.le_trans (length_le_renderHdrs H) (Nat.le_add_right _ _))
  simp only [hl, Bool.true_and, hdrBlock_render H hH B [] _ hlen, List.reverse_nil, List.nil_append, hf]

theorem plainTok_all {x : Bytes} (h : plainTok x = true) :
    x.isEmpty = false ∧ x.all (fun c => c != 13 && c != 10) = true ∧ SP ∉ x := by
  obtain ⟨h1, h2⟩ := Bool.and_eq_true_iff.1 h
  refine ⟨(Bool.not_eq_true' _).mp h1, List.all_eq_true.2 (fun c hc => ?_), (plainTok_spec h).2.1⟩
  obtain ⟨h3, h4⟩ := Bool.and_eq_true_iff.1 (List.all_eq_true.1 h2 c hc)
  rw [(Bool.and_eq_true_iff.1 h3).2, h4]; rfl

theorem startLineOK_req {m u v : Bytes} (hm : plainTok m = true) (hu : plainTok u = true) (hv : plainTok v = true) :
    startLineOK true (m ++ SP :: (u ++ SP :: v)) = true := by
  obtain ⟨m1, m2, m3⟩ := plainTok_all hm
  obtain ⟨u1, u2, u3⟩ := plainTok_all hu
  obtain ⟨v1, v2, -⟩ := plainTok_all hv
  unfold startLineOK
  rw [splitN1_three SP m u v m3 u3]
  simp only [m1, u1, v1, Bool.not_false, Bool.and_self, Bool.and_true]
  simp only [List.all_append, List.all_cons, m2, u2, v2, Bool.and_true, Bool.true_and]
  decide

theorem framingOK_cl {isReq : Bool} {H : HDict} {B : Bytes} (hte : H.any isTEChunked = false)
    (hcl : ∀ e ∈ H, isCL e = true → e.2 = natToDec B.length) (hB : H.any isCL = true ∨ B = []) :
    framingOK isReq H B = true := by
  rw [framingOK, hte, if_neg Bool.false_ne_true]
  split
  · refine List.all_eq_true.2 (fun e he => ?_)
    cases hc : isCL e with
    | false => rfl
    | true => rw [hcl e he hc]; exact bytes_beq_self _
  · rename_i hno
    rw [hB.resolve_left hno]; exact Bool.or_true _

theorem framingOK_chunked {isReq : Bool} {H : HDict} {B : Bytes} (hte : H.any isTEChunked = true)
    (hok : chunkedOK (B.length + 1) B = true) : framingOK isReq H B = true := by
  rw [framingOK, hte, if_pos rfl, hok]

end Px.Codec

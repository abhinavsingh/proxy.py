import PxProofs.ForwardLemmas
import PxProofs.BuildParse
import PxProofs.UrlParseLemmas
/-!
# C02: `parse (render r)` for well-formed `r`

`render r` for `r.WF` — any name casing, any OWS around values, any chunk layout — is read by
`HttpParser.parse` into exactly the fields the client meant (`parse_render`).
Start line: `Px.UrlL.fromBytes_absolute` (C14 lemmas); header block: each `fieldLine f` is read as
the header `(f.name, f.value)` (`readsAs_fieldLine`), so the block is the fold `Px.Codec.foldHdrs`
(`Px.Codec.processHeaders_block`, C15 lemmas); body: `Px.Codec.bodyPhase_*` (C15 lemmas) on the chunk
layout as a stream of the decoder's grammar (`toStream`, C03 lemmas).
-/
namespace Px.Forward

open Px.Parser Px.Build
open Px.Codec (hdrApply foldHdrs bodyPhase afterHeaders reqLineParser)

theorem not_mem_of_class {P : UInt8 → Bool} {x : Bytes} {k : UInt8} (h : ∀ c ∈ x, P c = true)
    (hk : P k = false := by decide +kernel) : k ∉ x :=
  fun hc => ne_of_class (h k hc) hk rfl

theorem isWs_false {c : UInt8} (h1 : c ≠ 32) (h2 : c ≠ 9) (h3 : c ≠ 10) (h4 : c ≠ 13) (h5 : c ≠ 11)
    (h6 : c ≠ 12) : isWs c = false := by
  simp [isWs, h1, h2, h3, h4, h5, h6]

theorem not_isWs_of_tchar {c : UInt8} (h : isTchar c = true) : isWs c = false :=
  isWs_false (ne_of_class h) (ne_of_class h) (ne_of_class h) (ne_of_class h) (ne_of_class h) (ne_of_class h)

theorem isWs_of_ows {c : UInt8} (h : isOws c = true) : isWs c = true := by
  have : c = 32 ∨ c = 9 := by simpa [isOws] using h
  rcases this with rfl | rfl <;> rfl

theorem not_isWs_of_fieldByte {c : UInt8} (h : isFieldByte c = true) (ho : isOws c = false) : isWs c = false := by
  have ho' : c ≠ 32 ∧ c ≠ 9 := by simpa [isOws] using ho
  exact isWs_false ho'.1 ho'.2 (ne_of_class h) (ne_of_class h) (ne_of_class h) (ne_of_class h)

theorem isTargetByte_iff {c : UInt8} : isTargetByte c = true ↔ 33 ≤ c.toNat ∧ c.toNat ≠ 127 := by
  simp [isTargetByte, UInt8.le_iff_toNat_le, ← UInt8.toNat_inj]

theorem hostByte_bounds {c : UInt8} (h : isHostByte c = true) : 33 ≤ c.toNat ∧ c.toNat < 127 := by
  simp only [isHostByte, Bool.and_eq_true, decide_eq_true_eq, UInt8.le_iff_toNat_le, UInt8.lt_iff_toNat_lt] at h
  exact h.1

theorem targetByte_of_hostByte {c : UInt8} (h : isHostByte c = true) : isTargetByte c = true := by
  have := hostByte_bounds h
  exact isTargetByte_iff.2 (by omega)

theorem targetByte_of_digit {c : UInt8} (h : isDigit c = true) : isTargetByte c = true := by
  simp only [isDigit, Bool.and_eq_true, decide_eq_true_eq, UInt8.le_iff_toNat_le] at h
  have : (48 : UInt8).toNat = 48 ∧ (57 : UInt8).toNat = 57 := ⟨rfl, rfl⟩
  exact isTargetByte_iff.2 (by omega)

def fieldLine (f : Field) : Bytes := f.name ++ COLON :: (f.pre ++ f.value ++ f.post)

theorem renderField_eq (f : Field) : renderField f = fieldLine f ++ CRLF := by
  simp [renderField, fieldLine]

theorem lstrip_ws_append (a x : Bytes) (ha : ∀ c ∈ a, isWs c = true) : lstrip (a ++ x) = lstrip x := by
  induction a with
  | nil => rfl
  | cons c cs ih =>
    have hc : isWs c = true := ha c (by simp)
    simp only [List.cons_append, lstrip, hc, if_true]
    exact ih (fun d hd => ha d (by simp [hd]))

theorem rstrip_append_ws (x a : Bytes) (ha : ∀ c ∈ a, isWs c = true) : rstrip (x ++ a) = rstrip x := by
  unfold rstrip
  rw [List.reverse_append, lstrip_ws_append _ _ (fun c hc => ha c (by simpa using hc))]

theorem valueOk_iff (v : Bytes) : valueOk v = true ↔
    (∀ c ∈ v, isFieldByte c = true) ∧ (∀ c, v.head? = some c → isOws c = false) ∧
      (∀ c, v.getLast? = some c → isOws c = false) := by
  simp only [valueOk, Bool.and_eq_true, List.all_eq_true]
  constructor
  · rintro ⟨⟨h1, h2⟩, h3⟩
    refine ⟨h1, ?_, ?_⟩
    · intro c hc; rw [hc] at h2; simpa using h2
    · intro c hc; rw [hc] at h3; simpa using h3
  · rintro ⟨h1, h2, h3⟩
    refine ⟨⟨h1, ?_⟩, ?_⟩
    · cases hh : v.head? with
      | none => rfl
      | some c => simp [h2 c hh]
    · cases hh : v.getLast? with
      | none => rfl
      | some c => simp [h3 c hh]

theorem strip_ows_value {pre v post : Bytes} (hpre : pre.all isOws = true) (hpost : post.all isOws = true)
    (hv : valueOk v = true) : strip (pre ++ v ++ post) = v := by
  have hpre' : ∀ c ∈ pre, isWs c = true := fun c hc => isWs_of_ows (List.all_eq_true.1 hpre c hc)
  have hpost' : ∀ c ∈ post, isWs c = true := fun c hc => isWs_of_ows (List.all_eq_true.1 hpost c hc)
  obtain ⟨hfb, hhead, hlast⟩ := (valueOk_iff v).1 hv
  unfold strip
  rw [List.append_assoc, lstrip_ws_append _ _ hpre']
  cases v with
  | nil =>
    simp only [List.nil_append]
    rw [(lstrip_eq_nil_iff post).2 hpost']; rfl
  | cons c cs =>
    have hcw : isWs c = false := not_isWs_of_fieldByte (hfb c (by simp)) (hhead c rfl)
    rw [List.cons_append, lstrip_of_head hcw, ← List.cons_append, rstrip_append_ws _ _ hpost']
    have hself : strip (c :: cs) = c :: cs :=
      strip_eq_self (fun d hd => by cases hd; exact hcw)
        (fun d hd => not_isWs_of_fieldByte (hfb d (List.mem_of_mem_getLast? hd)) (hlast d hd))
    unfold strip at hself
    rw [lstrip_of_head hcw] at hself
    exact hself

theorem tokenOk_iff {x : Bytes} : tokenOk x = true ↔ x ≠ [] ∧ ∀ c ∈ x, isTchar c = true := by
  simp [tokenOk]

theorem fieldLine_noLF {f : Field} (h : fieldOk f = true) : ∀ c ∈ fieldLine f, c ≠ LF := by
  simp only [fieldOk, Bool.and_eq_true] at h
  obtain ⟨⟨⟨hn, hpre⟩, hpost⟩, hv⟩ := h
  simp only [valueOk, Bool.and_eq_true, List.all_eq_true] at hv hpre hpost
  simp only [fieldLine, List.forall_mem_append, List.forall_mem_cons]
  exact ⟨fun c hc => ne_of_class ((tokenOk_iff.1 hn).2 c hc), by decide,
    ⟨fun c hc => ne_of_class (hpre c hc), fun c hc => ne_of_class (hv.1.1 c hc)⟩,
    fun c hc => ne_of_class (hpost c hc)⟩

theorem processHeader_field (p : Parser) {f : Field} (h : fieldOk f = true) :
    processHeader p (fieldLine f) = hdrApply p f.name f.value := by
  simp only [fieldOk, Bool.and_eq_true] at h
  obtain ⟨⟨⟨hn, hpre⟩, hpost⟩, hv⟩ := h
  have htc := (tokenOk_iff.1 hn).2
  have hs : splitOnce1 COLON (fieldLine f) = some (f.name, f.pre ++ f.value ++ f.post) :=
    splitOnce1_render _ _ _ (not_mem_of_class htc)
  have hk : strip f.name = f.name := Px.Codec.strip_noWs fun c hc => not_isWs_of_tchar (htc c hc)
  unfold processHeader hdrApply
  simp only [hs, hk, strip_ows_value hpre hpost hv]
  rfl

theorem fieldLine_not_blank (f : Field) : (strip (fieldLine f)).isEmpty = false := by
  have : strip (fieldLine f) ≠ [] :=
    strip_ne_nil (c := COLON) (by simp [fieldLine]) (by decide)
  simpa using this

/-- the header dict the client meant -/
def dictOf (fs : List Field) : HDict := fs.map (fun f => (f.name, f.value))

theorem readsAs_fieldLine {f : Field} (h : fieldOk f = true) : Px.Codec.ReadsAs (fieldLine f) f.name f.value :=
  ⟨splitCRLF_none_of_noLF (fieldLine_noLF h), fieldLine_not_blank f, fun p => processHeader_field p h⟩

theorem renderFields_eq (fs : List Field) : renderFields fs = (fs.map (fun f => fieldLine f ++ CRLF)).flatten := by
  rw [renderFields, funext renderField_eq]

theorem parse_request_fields (cfg : Px.Parser.Cfg) {m u v : Bytes} {url : Px.Url.Url} (fs : List Field) (B : Bytes)
    (hmne : m ≠ []) (hm : SP ∉ m) (hu : SP ∉ u) (hl : splitCRLF (m ++ SP :: (u ++ SP :: v)) = none)
    (hurl : Px.Url.fromBytes cfg.allowedSchemes u = .ok url)
    (hfs : ∀ f ∈ fs, fieldOk f = true) (pkt : Bytes)
    (hpkt : pkt = m ++ SP :: (u ++ SP :: v) ++ CRLF ++ (renderFields fs ++ CRLF ++ B))
    {q : Parser} (hq : foldHdrs (Px.Codec.reqLineParser cfg pkt.length m v url) (dictOf fs) = .ok q) :
    parse cfg (init .request) pkt = bodyPhase cfg (pkt.length + 6) q B := by
  have hst : (Px.Codec.reqLineParser cfg pkt.length m v url).state = .lineRcvd := by
    rw [Px.Codec.reqLineParser_eq]
  rw [Px.Codec.parse_pkt_of_line cfg .request _ (.ok q) _ (renderFields fs) B pkt hpkt
    (by rw [hpkt]; exact Px.Codec.processLine_request cfg _ _ hmne hm hu hl hurl) hst
    (.inl (by rw [Px.Codec.reqLineParser_eq]))]
  rw [← hq, renderFields_eq]
  refine Px.Codec.processHeaders_block fieldLine (fun f => (f.name, f.value)) fs
    (fun f hf => readsAs_fieldLine (hfs f hf)) _ (.inl hst) B _ ?_
  have := Px.Codec.length_le_block fieldLine fs
  simp only [List.length_append]
  omega

/-- the header map the client meant -/
def entries (fs : List Field) : Headers := fs.map (fun f => (lower f.name, (f.name, f.value)))

theorem inj_of_nodup_map {α β} (k : α → β) {l : List α} (hn : (l.map k).Nodup) {x y : α}
    (hx : x ∈ l) (hy : y ∈ l) (h : k x = k y) : x = y := by
  induction l with
  | nil => simp at hx
  | cons a rest ih =>
    simp only [List.map_cons, List.nodup_cons, List.mem_map, not_exists, not_and] at hn
    simp only [List.mem_cons] at hx hy
    rcases hx with rfl | hx <;> rcases hy with rfl | hy
    · rfl
    · exact absurd h.symm (hn.1 y hy)
    · exact absurd h (hn.1 x hx)
    · exact ih hn.2 hx hy

theorem entries_keys (fs : List Field) : (entries fs).map (·.1) = fs.map (fun f => lower f.name) := by
  simp [entries]

/-- distinct keys: every `add_header` appends -/
theorem hdrFold_entries (fs : List Field) (hn : (fs.map (fun f => lower f.name)).Nodup) :
    Px.Codec.hdrFold [] (dictOf fs) = entries fs := by
  refine (Px.Codec.foldl_append_of_fresh _ (fun e => (lower e.1, e)) Prod.fst
    (fun acc e hf => Px.Codec.hdrSet_of_no_key acc _ _ hf) (dictOf fs) [] ?_ (fun _ _ _ ha => nomatch ha)).trans ?_
  · rw [dictOf, List.map_map]; exact hn
  · rw [List.nil_append, dictOf, List.map_map]; rfl

theorem hdrInv_entries (fs : List Field) (hn : (fs.map (fun f => lower f.name)).Nodup) : HdrInv (entries fs) := by
  refine ⟨by rw [entries_keys]; exact hn, ?_⟩
  intro e he
  simp only [entries, List.mem_map] at he
  obtain ⟨f, _, rfl⟩ := he
  rfl

theorem isCL_iff (f : Field) : Px.Codec.isCL (f.name, f.value) = nameIs clName f := rfl

theorem isTEChunked_iff (f : Field) :
    Px.Codec.isTEChunked (f.name, f.value) = (nameIs teName f && lower f.value == chunkedTok) := rfl

theorem framingOk_none {r : Req} (h : framingOk r = true) (hf : r.framing = .none) :
    r.fields.any (nameIs clName) = false ∧ r.fields.any (nameIs teName) = false := by
  unfold framingOk at h
  simp only [hf, Bool.and_eq_true, Bool.not_eq_true'] at h
  exact ⟨h.1.2, h.2⟩

theorem framingOk_cl {r : Req} (h : framingOk r = true) (hf : r.framing = .contentLength) :
    r.fields.any (nameIs teName) = false ∧
      ∃ f ∈ r.fields, nameIs clName f = true ∧ pyInt 10 f.value = some (Int.ofNat r.body.length) := by
  unfold framingOk at h
  simp only [hf, Bool.and_eq_true, Bool.not_eq_true', List.any_eq_true, beq_iff_eq] at h
  obtain ⟨hte, f, hfm, ⟨⟨hfn, _⟩, _⟩, hval⟩ := h
  exact ⟨hte, f, hfm, hfn, hval⟩

theorem framingOk_chunked {r : Req} {cs : List ChunkSpec} {lsz lext : Bytes} (h : framingOk r = true)
    (hf : r.framing = .chunked cs lsz lext) :
    r.fields.any (nameIs clName) = false ∧
      (∃ f ∈ r.fields, nameIs teName f = true ∧ lower f.value = chunkedTok) ∧
      r.body = (cs.map (·.data)).flatten ∧
      cs.all (fun c => sizeLineOk c.sz c.ext c.data.length && !c.data.isEmpty) = true ∧
      sizeLineOk lsz lext 0 = true := by
  unfold framingOk at h
  simp only [hf, Bool.and_eq_true, Bool.not_eq_true', List.any_eq_true, beq_iff_eq] at h
  obtain ⟨⟨⟨⟨hcl, f, hfm, hfn, hfv⟩, hbody⟩, hcs⟩, hlast⟩ := h
  exact ⟨hcl, ⟨f, hfm, hfn, hfv⟩, hbody, hcs, hlast⟩

def Framing.isCL : Framing → Bool
  | .contentLength => true
  | _ => false

def Framing.isChunked : Framing → Bool
  | .chunked .. => true
  | _ => false

structure FramingFacts (r : Req) : Prop where
  clOK : Px.Codec.clValuesOK (dictOf r.fields)
  ce : ∀ {p q : Parser}, foldHdrs p (dictOf r.fields) = .ok q → p.contentExpected = false →
    q.contentExpected = (r.framing.isCL && !r.body.isEmpty)
  chunked : (dictOf r.fields).any Px.Codec.isTEChunked = r.framing.isChunked

theorem any_dictOf (fs : List Field) (P : Bytes × Bytes → Bool) :
    (dictOf fs).any P = fs.any (fun f => P (f.name, f.value)) := by
  simp [dictOf, List.any_map, Function.comp_def]

theorem framingFacts (r : Req) (hn : (r.fields.map (fun f => lower f.name)).Nodup)
    (hf : framingOk r = true) : FramingFacts r := by
  have noCL : r.fields.any (nameIs clName) = false → Px.Codec.clValuesOK (dictOf r.fields) ∧
      ∀ {p q : Parser}, foldHdrs p (dictOf r.fields) = .ok q → q.contentExpected = p.contentExpected := by
    intro hno
    have hany : (dictOf r.fields).any Px.Codec.isCL = false := (any_dictOf _ _).trans hno
    have hnone : ∀ e ∈ dictOf r.fields, ¬ Px.Codec.isCL e = true := List.any_eq_false.1 hany
    refine ⟨fun e he hcl => absurd hcl (hnone e he), fun hq => ?_⟩
    obtain ⟨ce, rfl, hce⟩ := Px.Codec.foldHdrs_eq _ hq
    exact (hce 0 fun e he hc => absurd hc (hnone e he)).trans (by rw [hany]; rfl)
  have noTE : r.fields.any (nameIs teName) = false → (dictOf r.fields).any Px.Codec.isTEChunked = false := by
    intro hno
    rw [any_dictOf, List.any_eq_false]
    intro f hfm
    have : nameIs teName f = false := by simpa using List.any_eq_false.1 hno f hfm
    simp [isTEChunked_iff, this]
  rcases hfr : r.framing with _ | _ | ⟨cs, lsz, lext⟩
  · obtain ⟨hcl, hte⟩ := framingOk_none hf hfr
    exact ⟨(noCL hcl).1, fun hq hp => by rw [(noCL hcl).2 hq, hp, hfr]; rfl, by rw [noTE hte, hfr]; rfl⟩
  · -- Content-Length: the one field with that name reads as the body length
    obtain ⟨hte, f, hfm, hfn, hval⟩ := framingOk_cl hf hfr
    have hall : ∀ e ∈ dictOf r.fields, Px.Codec.isCL e = true → pyInt 10 e.2 = some (Int.ofNat r.body.length) :=
      List.forall_mem_map.2 fun g hg hcl => by
        simp only [isCL_iff, nameIs, beq_iff_eq] at hcl hfn
        rw [inj_of_nodup_map _ hn hg hfm (hcl.trans hfn.symm)]
        exact hval
    refine ⟨fun e he hcl => ⟨_, hall e he hcl⟩, fun hq _ => ?_, by rw [noTE hte, hfr]; rfl⟩
    obtain ⟨ce, rfl, hce⟩ := Px.Codec.foldHdrs_eq _ hq
    have hex : (dictOf r.fields).any Px.Codec.isCL = true := by
      rw [any_dictOf]; exact List.any_eq_true.2 ⟨f, hfm, hfn⟩
    show ce = _
    rw [hce _ hall, if_pos hex, hfr]
    cases r.body <;> simp [Framing.isCL]
  · obtain ⟨hcl, ⟨f, hfm, hfn, hfv⟩, -⟩ := framingOk_chunked hf hfr
    refine ⟨(noCL hcl).1, fun hq hp => by rw [(noCL hcl).2 hq, hp, hfr]; rfl, ?_⟩
    rw [any_dictOf, hfr]
    exact List.any_eq_true.2 ⟨f, hfm, by rw [isTEChunked_iff, hfn, hfv]; rfl⟩

def toStream : List ChunkSpec → Bytes → Bytes → Px.Chunk.ChunkedStream
  | [], lsz, lext => .last lsz lext
  | c :: cs, lsz, lext => .chunk c.sz c.ext c.data (toStream cs lsz lext)

theorem toStream_render (cs : List ChunkSpec) (lsz lext : Bytes) :
    (toStream cs lsz lext).render = renderChunks cs ++ (lsz ++ lext ++ CRLF ++ CRLF) := by
  induction cs with
  | nil => simp [toStream, Px.Chunk.ChunkedStream.render, renderChunks]
  | cons c cs ih => simp [toStream, Px.Chunk.ChunkedStream.render, renderChunks, ih]

theorem toStream_decoded (cs : List ChunkSpec) (lsz lext : Bytes) :
    (toStream cs lsz lext).decoded = (cs.map (·.data)).flatten := by
  induction cs with
  | nil => simp [toStream, Px.Chunk.ChunkedStream.decoded]
  | cons c cs ih => simp [toStream, Px.Chunk.ChunkedStream.decoded, ih]

theorem sizeLine_of_ok {sz ext : Bytes} {n : Nat} (h : sizeLineOk sz ext n = true) :
    Px.Chunk.SizeLine sz ext n := by
  simp only [sizeLineOk, Bool.and_eq_true, Bool.not_eq_true', List.all_eq_true, beq_iff_eq,
    Bool.or_eq_true, List.isEmpty_iff, bne_iff_ne, ne_eq] at h
  obtain ⟨⟨⟨⟨_, hhex⟩, hint⟩, hext⟩, hnl⟩ := h
  refine ⟨hint, ?_, ?_, hext⟩
  · exact not_mem_of_class hhex
  · exact splitCRLF_none_of_noLF
      (List.forall_mem_append.2 ⟨fun c hc => ne_of_class (hhex c hc), fun c hc => (hnl c hc).2⟩)

theorem toStream_valid (cs : List ChunkSpec) (lsz lext : Bytes)
    (hcs : cs.all (fun c => sizeLineOk c.sz c.ext c.data.length && !c.data.isEmpty) = true)
    (hl : sizeLineOk lsz lext 0 = true) : (toStream cs lsz lext).Valid := by
  induction cs with
  | nil => exact sizeLine_of_ok hl
  | cons c cs ih =>
    simp only [List.all_cons, Bool.and_eq_true, Bool.not_eq_true', List.isEmpty_eq_false_iff] at hcs
    exact ⟨sizeLine_of_ok hcs.1.1, hcs.1.2, ih (by simpa using hcs.2)⟩

def authorityOf (host : Bytes) (port : Option Bytes) : Bytes := host ++ portPart port

theorem renderTarget_absolute (host : Bytes) (port : Option Bytes) (pq : Bytes) :
    renderTarget (.absolute host port pq) = httpScheme ++ b "://" ++ authorityOf host port ++ pq := by
  rw [Px.UrlL.sep_eq]
  simp [renderTarget, authorityOf, schemeSep, COLON, SLASH]

structure TargetFacts (host : Bytes) (port : Option Bytes) (pq : Bytes) : Prop where
  noSP : SP ∉ renderTarget (.absolute host port pq)
  noLF : ∀ c ∈ renderTarget (.absolute host port pq), c ≠ LF
  url : ∃ url, Px.Url.fromBytes pcfg.allowedSchemes (renderTarget (.absolute host port pq)) = .ok url ∧
    url.hostname = some host ∧ url.remainder = (if pq.isEmpty then none else some pq)
  hostAscii : ∀ c ∈ host, c.toNat < 128
  hostNe : host.isEmpty = false

theorem targetFacts {host : Bytes} {port : Option Bytes} {pq : Bytes}
    (h : targetOk (.absolute host port pq) = true) : TargetFacts host port pq := by
  simp only [targetOk, Bool.and_eq_true, Bool.not_eq_true', pathqOk, Bool.or_eq_true, beq_iff_eq,
    List.all_eq_true] at h
  obtain ⟨⟨⟨hne, hhost⟩, hport⟩, hpq, hpqh⟩ := h
  have hp : ∀ p, port = some p → (∀ c ∈ p, isDigit c = true) ∧ ∃ v, pyInt 10 p = some v := by
    rintro p rfl
    simp only [Bool.and_eq_true, List.all_eq_true, Option.isSome_iff_exists] at hport
    exact ⟨hport.1.2, hport.2⟩
  -- the authority consists of host bytes, `:` and digits: no `@`, no `/`
  have hauth : ∀ c ∈ authorityOf host port, (isHostByte c || c == COLON || isDigit c) = true := by
    intro c hc
    rcases List.mem_append.1 hc with hc | hc
    · simp [hhost c hc]
    · cases port with
      | none => cases hc
      | some p =>
        rcases List.mem_cons.1 hc with rfl | hc
        · rfl
        · simp [(hp p rfl).1 c hc]
  have hmem : ∀ c ∈ renderTarget (.absolute host port pq), isTargetByte c = true := by
    rw [renderTarget_absolute, Px.UrlL.sep_eq]
    simp only [List.forall_mem_append]
    refine ⟨⟨⟨by decide, by decide⟩, fun c hc => ?_⟩, hpq⟩
    have := hauth c hc
    simp only [Bool.or_eq_true, beq_iff_eq] at this
    rcases this with (h | rfl) | h
    · exact targetByte_of_hostByte h
    · rfl
    · exact targetByte_of_digit h
  refine ⟨not_mem_of_class hmem, fun c hc => ne_of_class (hmem c hc), ?_,
    fun c hc => Nat.lt_trans (hostByte_bounds (hhost c hc)).2 (by decide), hne⟩
  have hcolh : COLON ∉ host := not_mem_of_class hhost
  have hpa : ∃ v, Px.Url.parseAuthority (authorityOf host port) = .ok (none, none, host, v) := by
    rw [Px.UrlL.parseAuthority_no_userinfo _ (not_mem_of_class hauth)]
    cases port with
    | none => exact ⟨none, by simpa [authorityOf, portPart] using Px.UrlL.hostPort_plain host none none host hcolh⟩
    | some p =>
      obtain ⟨hdig, v, hv⟩ := hp p rfl
      exact ⟨some v, Px.UrlL.hostPort_plain_port _ none none host p v hcolh (not_mem_of_class hdig) hv⟩
  obtain ⟨v, hv⟩ := hpa
  have hfb := Px.UrlL.fromBytes_absolute pcfg.allowedSchemes httpScheme (authorityOf host port) pq
    (by decide) (by decide) (by decide) (not_mem_of_class hauth)
    (hpqh.imp (fun h => by simpa using h) id)
  rw [← renderTarget_absolute, hv] at hfb
  exact ⟨_, hfb, rfl, rfl⟩

theorem version_facts {v : Bytes} (h : v = Px.Gen.http11 ∨ v = Px.Gen.http10) :
    v ≠ [] ∧ ∀ c ∈ v, c ≠ LF := by
  rcases h with rfl | rfl <;> exact ⟨by decide, by decide⟩

/-- the body field the parser ends up with -/
def parsedBody (r : Req) : Option Bytes :=
  match r.framing with
  | .none => none
  | .contentLength => if r.body.isEmpty then none else some r.body
  | .chunked .. => some r.body

/-- what the parser holds once `render r` has been fed (in one piece) -/
structure Parsed (r : Req) (host pq : Bytes) (P : Parser) : Prop where
  state : P.state = .complete
  ty : P.ty = .request
  method : P.method = some r.method
  version : P.version = some r.version
  path : P.path = (if pq.isEmpty then none else some pq)
  host : P.host = some host
  url : P.url.isSome = true
  tunnel : P.isTunnel = false
  buffer : P.buffer = none
  headers : P.headers = (if r.fields = [] then none else some (entries r.fields))
  body : P.body = parsedBody r
  chunked : P.isChunked = r.framing.isChunked

theorem header_of_entries {q : Parser} {fs : List Field} (hq : q.headers = some (entries fs))
    (hn : (fs.map (fun f => lower f.name)).Nodup) {f : Field} (hf : f ∈ fs) (hcl : nameIs clName f = true) :
    header q (b "content-length") = .ok f.value := by
  unfold header
  rw [hq, b_content_length', lower_clName]
  have hmem : (lower f.name, (f.name, f.value)) ∈ entries fs := by
    simp only [entries, List.mem_map]; exact ⟨f, hf, rfl⟩
  have hkeys : ((entries fs).map (·.1)).Nodup := by rw [entries_keys]; exact hn
  have := Px.Codec.hdrGet_of_mem hkeys hmem
  simp only [nameIs, beq_iff_eq] at hcl
  simp only [hcl] at this
  simp only [this]

theorem bodyPhase_render (r : Req) (hnodup : (r.fields.map (fun f => lower f.name)).Nodup)
    (hfr : framingOk r = true) (fuel : Nat) {q : Parser}
    (hce : q.contentExpected = (r.framing.isCL && !r.body.isEmpty)) (hchk : q.isChunked = r.framing.isChunked)
    (hqh : q.headers = (if r.fields = [] then none else some (entries r.fields)))
    (hqb : q.body = none) (hqc : q.chunk = none) :
    ∃ ck, bodyPhase pcfg (fuel + 2) q (renderBody r) =
      .ok { q with state := .complete, body := parsedBody r, chunk := ck, buffer := none } := by
  unfold renderBody parsedBody
  rcases hfrm : r.framing with _ | _ | ⟨cs, lsz, lext⟩
  · rw [hfrm] at hce hchk
    exact ⟨_, by rw [Px.Codec.bodyPhase_nobody pcfg _ q [] hce hchk (.inl rfl), hqb]; rfl⟩
  · rw [hfrm] at hce hchk
    by_cases hbe : r.body = []
    · have hce' : q.contentExpected = false := by rw [hce, hbe]; rfl
      exact ⟨_, by rw [hbe, Px.Codec.bodyPhase_nobody pcfg _ q [] hce' hchk (.inl rfl), hqb]; rfl⟩
    · have hbe' : r.body.isEmpty = false := by simpa using hbe
      have hce' : q.contentExpected = true := by rw [hce, hbe']; rfl
      obtain ⟨-, f, hfm, hfn, hval⟩ := framingOk_cl hfr hfrm
      have hne : r.fields ≠ [] := by intro he; rw [he] at hfm; cases hfm
      have hcl := header_of_entries (hqh.trans (if_neg hne)) hnodup hfm hfn
      exact ⟨_, by
        rw [← List.append_nil r.body, Px.Codec.bodyPhase_cl pcfg _ q r.body [] f.value hchk hce' hqb hcl hval hbe,
          List.append_nil, hbe']
        rfl⟩
  · obtain ⟨-, -, hbody, hcs, hlast⟩ := framingOk_chunked hfr hfrm
    rw [hfrm] at hchk
    exact ⟨_, by
      dsimp only
      rw [← toStream_render, ← List.append_nil (toStream cs lsz lext).render,
        Px.Codec.bodyPhase_chunked pcfg _ q _ [] hchk hqc (toStream_valid cs lsz lext hcs hlast), toStream_decoded,
        ← hbody]
      rfl⟩

theorem parse_render (r : Req) (hwf : r.WF) {host : Bytes} {port : Option Bytes} {pq : Bytes}
    (ht : r.target = .absolute host port pq) :
    ∃ P, parse pcfg (init .request) (render r) = .ok P ∧ Parsed r host pq P := by
  obtain ⟨hmtok, hmc, htgt, hver, hfs, hnodup, hfr⟩ := hwf
  rw [ht] at htgt
  have tf := targetFacts htgt
  obtain ⟨url, hurl, huh, hur⟩ := tf.url
  obtain ⟨hmne, hmtc⟩ := tokenOk_iff.1 hmtok
  obtain ⟨_, hvlf⟩ := version_facts hver
  have ff := framingFacts r hnodup hfr
  have hl : splitCRLF (r.method ++ SP :: (renderTarget (.absolute host port pq) ++ SP :: r.version)) = none := by
    apply splitCRLF_none_of_noLF
    simp only [List.forall_mem_append, List.forall_mem_cons]
    exact ⟨fun c hc => ne_of_class (hmtc c hc), by decide, tf.noLF, by decide, hvlf⟩
  have hpkt : render r = r.method ++ SP :: (renderTarget (.absolute host port pq) ++ SP :: r.version) ++ CRLF ++
      (renderFields r.fields ++ CRLF ++ renderBody r) := by
    simp only [render, requestLine, ht]
  have hp1 := Px.Codec.reqLineParser_eq pcfg (render r).length r.method r.version url
  obtain ⟨q, hq⟩ := Px.Codec.foldHdrs_ok (dictOf r.fields) ff.clOK
    (reqLineParser pcfg (render r).length r.method r.version url)
  rw [parse_request_fields pcfg r.fields (renderBody r) hmne (not_mem_of_class hmtc) tf.noSP hl hurl hfs (render r) hpkt hq]
  have hce := ff.ce hq (by rw [hp1])
  obtain ⟨ce, hqeq, -⟩ := Px.Codec.foldHdrs_eq _ hq
  rw [hp1] at hqeq
  have hmm : (r.method == pcfg.connectMethod) = false := by
    have : r.method ≠ pcfg.connectMethod := hmc
    simpa using this
  have hchk : q.isChunked = r.framing.isChunked := by
    rw [hqeq]; exact (Bool.false_or _).trans ff.chunked
  have hqh : q.headers = (if r.fields = [] then none else some (entries r.fields)) := by
    rw [hqeq]
    show (if dictOf r.fields = [] then none else some (Px.Codec.hdrFold [] (dictOf r.fields))) = _
    rw [hdrFold_entries r.fields hnodup]
    simp only [dictOf, List.map_eq_nil_iff]
  -- the body phase touches `state`, `body`, `chunk` and `buffer` only
  obtain ⟨ck, hbody⟩ := bodyPhase_render r hnodup hfr ((render r).length + 4) hce hchk hqh
    (by rw [hqeq]) (by rw [hqeq])
  refine ⟨_, hbody, rfl, ?_, ?_, ?_, ?_, ?_, ?_, ?_, rfl, hqh, rfl, hchk⟩ <;> rw [hqeq]
  · exact hur
  · exact huh
  · rfl
  · exact hmm

end Px.Forward

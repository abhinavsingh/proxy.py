import PxModel.Exec
import PxProofs.ExecLemmas
/-!
# C05 — one connection cannot take down or stall the executor serving the others

The model (`PxModel/Selector.lean`, `PxModel/Exec.lean`) is tied to
`proxy/core/work/threadless.py`, `proxy/core/work/fd/{fd,local}.py` and CPython's
`selectors.EpollSelector` by the correspondence checks `harness/c05.py` /
`harness/c10.py` (real `LocalFdExecutor`, real `DefaultSelector`, real sockets).

A work is abstract: in every round the environment chooses what its
`get_events()` returns or that it raises, what its task returns or that it
raises, which descriptors it opens and closes, what its `shutdown()` closes and
whether it raises.  The theorems quantify over *all* such environments.
-/
namespace Px.Exec
open Px.Sel

def fresh (k : Kernel) : Exec := { works := [], registered := [], sk := { map := [], k := k } }

theorem fresh_inv (k : Kernel) : Inv (fresh k) := by
  constructor <;> simp [fresh, cell, regOf]

/-- states reachable by any history of rounds (`_run_once`) and reaper runs (`_cleanup_inactive`) -/
inductive Reach : Exec → Prop
  | init (k : Kernel) : Reach (fresh k)
  | round {x y : Exec} {log : Log} (env : RoundEnv) : Reach x → ArriveOk x env →
      runOnce x env = .ok (y, log) → Reach y
  | reap {x y : Exec} (inactive : WorkId → Bool) (sd : WorkId → Shutdown) : Reach x →
      reap x inactive sd = .ok y → Reach y

theorem C05_reach_inv {x : Exec} (h : Reach x) : Inv x := by
  induction h with
  | init k => exact fresh_inv k
  | round env _ ha hr ih =>
    obtain ⟨y', log', h', hf⟩ := runOnce_facts _ env ih ha
    rw [hr] at h'; cases h'; exact hf.inv
  | reap inactive sd _ hr ih => exact cleanupMany_inv sd _ ih hr

/-- **C05 aliveness.**  Whatever the works do — any result or exception of `get_events`, any
`selectors` / `epoll_ctl` error their descriptors provoke, any result or exception of a task, any
descriptors closed or opened meanwhile, a `shutdown()` that raises — no exception escapes `_run_once`.
(The last by omission: `_cleanup` logs and drops what `shutdown()` raises, and nothing in the model reads
`Shutdown.raises`.) -/
theorem C05_alive (x : Exec) (env : RoundEnv) (hi : Inv x) (ha : ArriveOk x env) :
    ∃ y log, runOnce x env = .ok (y, log) ∧ Inv y := by
  obtain ⟨y, log, hr, hf⟩ := runOnce_facts x env hi ha
  exact ⟨y, log, hr, hf.inv⟩

theorem C05_alive_forever {x : Exec} (h : Reach x) (env : RoundEnv) (ha : ArriveOk x env) :
    ∃ y log, runOnce x env = .ok (y, log) ∧ Reach y := by
  obtain ⟨y, log, hr, _⟩ := runOnce_facts x env (C05_reach_inv h) ha
  exact ⟨y, log, hr, Reach.round env h ha hr⟩

theorem C05_reap_alive {x : Exec} (h : Reach x) (inactive : WorkId → Bool) (sd : WorkId → Shutdown) :
    ∃ y, reap x inactive sd = .ok y ∧ Reach y := by
  obtain ⟨y, hr, _, _⟩ := reap_ok x inactive sd (C05_reach_inv h)
  exact ⟨y, hr, Reach.reap inactive sd h hr⟩

/-- **C05 others keep being served.**  Whatever the other works do in a
round, a work whose own event refresh did not fail and whose own task did not
ask for teardown is still there after the round. -/
theorem C05_others_survive (x : Exec) (env : RoundEnv) (hi : Inv x) (ha : ArriveOk x env) (b : WorkId)
    (hb : b ∈ x.works) :
    ∃ y log, runOnce x env = .ok (y, log) ∧
      (b ∉ log.failed → ¬ (b ∈ log.tasks.map (·.1) ∧ teardown env b = true) → b ∈ y.works) := by
  obtain ⟨y, log, hr, hf⟩ := runOnce_facts x env hi ha
  exact ⟨y, log, hr, fun hnf hnt => (hf.mem_works b).2 ⟨Or.inl ⟨hb, hnf⟩, hnt⟩⟩

/-- The guard `ArriveOk` is not vacuous … -/
example : ArriveOk (fresh ⟨[5], []⟩) { beh := fun _ => ⟨.ok [], .fls, [], ⟨[], false⟩⟩, ready := [], arrive := some ⟨5, true⟩, prio := [] } := by
  intro a h; cases h; simp [fresh]

/-- … and it excludes exactly a real way to die: a work that closed its client
socket without being torn down (`works` still holds id 5, with descriptor 7
registered and ready), a new connection that is handed the same descriptor
number 5 and whose `initialize()` raises: `work()` overwrites `works[5]`,
`_cleanup(5)` deletes it, and `_create_tasks` then evaluates `self.works[5]`
for the ready descriptor → `KeyError` out of `_run_once`.  (Not reachable with
`HttpProtocolHandler`, which closes its client socket only in `shutdown()`.) -/
def witnessState : Exec :=
  { works := [5], registered := [(5, [(7, 1)])],
    sk := { map := [(7, (1, 5))], k := { open_ := [5, 7], epoll := [(7, 1)] } } }

def witnessEnv : RoundEnv :=
  { beh := fun _ => ⟨.ok [(7, 1)], .fls, [], ⟨[], false⟩⟩, ready := [(7, 1)], arrive := some ⟨5, true⟩, prio := [] }

theorem C05_arrive_guard_witness :
    runOnce witnessState witnessEnv = .error (.worksKeyError 5) ∧ ¬ ArriveOk witnessState witnessEnv := by
  constructor
  · rfl
  · intro h
    have := (h ⟨5, true⟩ rfl).2 rfl
    exact this (by simp [witnessState])

/-- **C05 noninterference (two executors).**  What a round does to `b` and hands to `b` — its registry
entry and descriptors, its readables / writables (or no task), whether its event refresh failed —
depends only on what concerns `b` in the state, `b`'s behaviour and the readiness of `b`'s
descriptors, whatever else is going on in either executor.  `p` marks `b`'s descriptors (`AgreeB`,
`SepSt`, `SepEnv`); `SepEnv.myOps` / `otherOps` admit only `.close` and `.openAt`, so a round in
which some work performs `FdOp.openNew` is not covered. -/
theorem C05_noninterference (p : Fd → Bool) (b : WorkId) (x₁ x₂ y₁ y₂ : Exec) (env₁ env₂ : RoundEnv) (l₁ l₂ : Log)
    (hi₁ : Inv x₁) (hi₂ : Inv x₂)
    (hag : AgreeB (fun fd => p fd = true) b x₁ x₂)
    (hs₁ : SepSt (fun fd => p fd = true) b x₁) (hs₂ : SepSt (fun fd => p fd = true) b x₂)
    (he₁ : SepEnv (fun fd => p fd = true) b env₁) (he₂ : SepEnv (fun fd => p fd = true) b env₂)
    (hbeh : env₁.beh b = env₂.beh b)
    (hready : env₁.ready.filter (fun e => p e.1) = env₂.ready.filter (fun e => p e.1))
    (h₁ : runOnce x₁ env₁ = .ok (y₁, l₁)) (h₂ : runOnce x₂ env₂ = .ok (y₂, l₂)) :
    AgreeB (fun fd => p fd = true) b y₁ y₂ ∧ taskOf l₁.tasks b = taskOf l₂.tasks b ∧
    (b ∈ l₁.failed ↔ b ∈ l₂.failed) ∧
    SepSt (fun fd => p fd = true) b y₁ ∧ SepSt (fun fd => p fd = true) b y₂ := by
  obtain ⟨a2, a3, ha2, ha3, ha5, hl₁⟩ := runOnce_stages x₁ y₁ env₁ l₁ h₁
  obtain ⟨b2, b3, hb2, hb3, hb5, hl₂⟩ := runOnce_stages x₂ y₂ env₂ l₂ h₂
  obtain ⟨u1, uf1, us1⟩ := updAll_view env₁ he₁ x₁.works x₁ hi₁.nodup hs₁
  obtain ⟨v1, vf1, vs1⟩ := updAll_view env₂ he₂ x₂.works x₂ hi₂.nodup hs₂
  have ui := updAll_inv env₁ x₁.works x₁ (fun w h => h) hi₁
  have vi := updAll_inv env₂ x₂.works x₂ (fun w h => h) hi₂
  have hsc := updWork_own x₁ x₂ (env₁.beh b).events he₁.myEvents ⟨hag, hs₁⟩
  rw [← hbeh] at v1 vf1
  have stage1 := AgreeB.of_ite u1 v1 hag.alive hsc.1.agree hag
  have hfailed : b ∈ (updAll env₁ x₁ x₁.works).2 ↔ b ∈ (updAll env₂ x₂ x₂.works).2 := by
    rw [uf1, vf1, hsc.2, hag.alive]
  obtain ⟨stage2, cs1, ds1⟩ := cleanupMany_agree (sdOf env₁) (sdOf env₂) _ _ _ _ a2 b2 he₁.otherCloses
    he₂.otherCloses (by unfold sdOf; rw [hbeh]) hfailed (ui.failed_sub.nodup hi₁.nodup) (vi.failed_sub.nodup hi₂.nodup)
    stage1 us1 vs1 ha2 hb2
  have hsel := select_for_b p b a2 b2 env₁.ready env₂.ready stage2.cells
    (keys_of_b_in_P a2 (cleanupMany_inv _ _ ui.inv ha2) cs1)
    (keys_of_b_in_P b2 (cleanupMany_inv _ _ vi.inv hb2) ds1) hready
  have hids : b ∈ (workByIds (select a2.sk env₁.ready)).map (·.1) ↔ b ∈ (workByIds (select b2.sk env₂.ready)).map (·.1) := by
    rw [mem_ids_iff, mem_ids_iff, hsel]
  have htask : taskOf l₁.tasks b = taskOf l₂.tasks b := by
    rw [hl₁, hl₂]
    simp only [taskOf_workByIds, hsel]
  obtain ⟨aa, as3⟩ := acceptOpt_other env₁ he₁ a2 a3 cs1 ha3
  obtain ⟨ba, bs3⟩ := acceptOpt_other env₂ he₂ b2 b3 ds1 hb3
  have stage4 : AgreeB (fun fd => p fd = true) b a3 b3 := aa.trans (stage2.trans ba.symm)
  obtain ⟨ta, ts⟩ := runTasks_view env₁ he₁ _ a3 (tasks_ids_nodup (select a2.sk env₁.ready)) as3
  obtain ⟨tb, tt⟩ := runTasks_view env₂ he₂ _ b3 (tasks_ids_nodup (select b2.sk env₂.ready)) bs3
  have hstep : AgreeB (fun fd => p fd = true) b (taskStep env₁ a3 b) (taskStep env₂ b3 b) := by
    have e : taskStep env₂ b3 b = taskStep env₁ b3 b := by unfold taskStep; rw [hbeh]
    rw [e]; exact taskStep_own env₁ he₁ a3 b3 stage4
  have stage5 := AgreeB.of_ite ta tb hids hstep stage4
  obtain ⟨k₁, kn₁, km₁, ke₁⟩ := handleResults_eq env₁ env₁.prio _ (tasks_ids_nodup (select a2.sk env₁.ready))
  obtain ⟨k₂, kn₂, km₂, ke₂⟩ := handleResults_eq env₂ env₂.prio _ (tasks_ids_nodup (select b2.sk env₂.ready))
  rw [ke₁] at ha5
  rw [ke₂] at hb5
  have htd : teardown env₁ b = teardown env₂ b := by unfold teardown; rw [hbeh]
  obtain ⟨stage6, rs1, qs1⟩ := cleanupMany_agree (sdOf env₁) (sdOf env₂) k₁ k₂ _ _ y₁ y₂ he₁.otherCloses
    he₂.otherCloses (by unfold sdOf; rw [hbeh]) (by rw [km₁, km₂, hids, htd]) kn₁ kn₂ stage5 ts tt ha5 hb5
  exact ⟨stage6, htask, by rw [hl₁, hl₂]; exact hfailed, rs1, qs1⟩

/-- **C05 noninterference (alone).**  The projection of a round on `b` equals the round of the
executor that contains only `b` (`soloOf b x`: same kernel, only `b`'s registry entry and selector
keys, no other work, no arrival), given the same behaviour of `b` and the same readiness. -/
theorem C05_noninterference_solo (p : Fd → Bool) (b : WorkId) (x y : Exec) (env : RoundEnv) (l : Log)
    (hi : Inv x) (hs : SepSt (fun fd => p fd = true) b x) (he : SepEnv (fun fd => p fd = true) b env)
    (h : runOnce x env = .ok (y, l)) :
    ∃ y' l', runOnce (soloOf b x) (soloEnv env) = .ok (y', l') ∧
      AgreeB (fun fd => p fd = true) b y y' ∧ taskOf l.tasks b = taskOf l'.tasks b ∧
      (b ∈ l.failed ↔ b ∈ l'.failed) := by
  obtain ⟨hag, hss⟩ := soloOf_agree x hi hs
  have hiS := soloOf_inv b x hi
  obtain ⟨y', l', hr, _⟩ := C05_alive (soloOf b x) (soloEnv env) hiS (by intro a ha; cases ha)
  obtain ⟨h1, h2, h3, _, _⟩ := C05_noninterference p b x (soloOf b x) y y' env (soloEnv env) l l' hi hiS hag.symm hs hss he
    (soloEnv_sep he) rfl rfl h hr
  exact ⟨y', l', hr, h1, h2, h3⟩

/-- the separation hypotheses are satisfiable by a non-trivial situation: work 7 with descriptors
    7 and 9, another work 11 with descriptors 11 and 13 that raises in `get_events`, closes 13 and
    whose task raises -/
def sepState : Exec :=
  { works := [7, 11], registered := [(7, [(7, 1), (9, 3)]), (11, [(11, 1), (13, 1)])],
    sk := { map := [(7, (1, 7)), (9, (3, 7)), (11, (1, 11)), (13, (1, 11))],
            k := { open_ := [7, 9, 11, 13], epoll := [(7, 1), (9, 3), (11, 1), (13, 1)] } } }

def sepEnv : RoundEnv :=
  { beh := fun w => if w = 7 then ⟨.ok [(7, 1), (9, 1)], .fls, [.close 9], ⟨[7, 9], false⟩⟩
                    else ⟨.exc, .exc, [.close 13], ⟨[11, 13], true⟩⟩,
    ready := [(7, 1), (13, 1)], arrive := none, prio := [] }

example : SepSt (fun fd => (decide (fd = 7 ∨ fd = 9)) = true) 7 sepState := by
  constructor
  · intro fd h
    simp [sepState, regOf, keysOf, aget_cons] at h
    simp [h]
  · intro a ha fd h
    by_cases e : a = 11
    · subst e
      simp [sepState, regOf, keysOf, aget_cons] at h
      rcases h with h | h <;> simp [h]
    · have : regOf sepState a = [] := by simp [sepState, regOf, aget_cons, Ne.symm ha, Ne.symm e]
      rw [this] at h; simp [keysOf] at h

example : SepEnv (fun fd => (decide (fd = 7 ∨ fd = 9)) = true) 7 sepEnv := by
  constructor
  · intro evs h e he
    simp [sepEnv] at h; subst h
    simp at he; rcases he with he | he <;> simp [he]
  · intro op h
    simp [sepEnv] at h; subst h
    exact ⟨9, Or.inl rfl, by simp⟩
  · intro fd h
    simp [sepEnv] at h; rcases h with h | h <;> simp [h]
  · intro a ha evs h
    simp [sepEnv, ha] at h
  · intro a ha op h
    simp [sepEnv, ha] at h; subst h
    exact ⟨13, Or.inl rfl, by simp⟩
  · intro a ha fd h
    simp [sepEnv, ha] at h; rcases h with h | h <;> simp [h]
  · intro a h; simp [sepEnv] at h

end Px.Exec

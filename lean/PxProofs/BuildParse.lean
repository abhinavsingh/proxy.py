import PxModel.Parser
import PxModel.Build
import PxProofs.BytesLemmas
import PxProofs.ChunkLemmas
import PxProofs.ParserLoop
import PxProofs.HexLemmas
import PxProofs.BuildLemmas
/-!
# The builders' output read back by the parser, part 2: whole messages (C15)

`parse` run on `start-line CRLF header-block CRLF payload` (one piece, fresh parser): the first loop iteration
consumes the start line, the second the header block; what is left to do is `bodyPhase` (the framing decision of
`HttpParser.parse` and the body automaton), one lemma for each of the three framings.
-/
namespace Px.Codec

open Px.Parser Px.Build
open Px.Url (Url)

theorem parse_init (cfg : Cfg) (ty : PType) {pkt : Bytes} (hne : pkt ≠ []) :
    parse cfg (init ty) pkt =
      (loop cfg (pkt.length + 8) { (init ty) with totalSize := pkt.length } true pkt).map finish := by
  have hpos : decide (pkt.length > 0) = true := by simpa using List.length_pos_iff.2 hne
  rw [parse_eq, hpos]
  simp [bufBytes, init]

/-- the framing decision taken when the blank line is reached (`HttpParser.parse`) -/
def afterHeaders (q : Parser) (B : Bytes) : Parser × Bool × Bytes :=
  if !(q.contentExpected || q.isChunked) &&
      (B.isEmpty || q.ty == .request || hasHeader q (b "content-length")) then
    ({ q with state := .complete }, !B.isEmpty, B)
  else ({ q with state := .headersComplete }, !B.isEmpty, B)

/-- a response line followed by nothing but the blank line is complete at once -/
theorem stepOnce_line (cfg : Cfg) {p p1 : Parser} {raw rest : Bytes} {more : Bool} (hp : p.state = .initialized)
    (hpl : processLine cfg p raw = .ok (p1, more, rest)) (hst : p1.state = .lineRcvd) :
    stepOnce cfg p raw = .ok (if p1.ty == .response && rest == CRLF then ({ p1 with state := .complete }, more, [])
      else (p1, more, rest)) := by
  rw [stepOnce_eq, core_line raw hp, hpl]
  show Except.ok (post (p1, more, rest)) = _
  simp only [post, hst, beq_self_eq_true, Bool.and_true,
    show (PState.lineRcvd == PState.headersComplete) = false from rfl, Bool.false_and, Bool.false_eq_true, if_false]

/-- `blk` is a header block, whatever its spelling, that the header loop reads as the fold `r` -/
theorem stepOnce_headers (cfg : Cfg) (p : Parser) (hp : p.state = .lineRcvd) (blk B : Bytes)
    (r : Except Px.Parser.Err Parser)
    (h : processHeaders ((blk ++ CRLF ++ B).length + 1) p (blk ++ CRLF ++ B) =
      match r with
      | .error e => .error e
      | .ok q => .ok ({ q with state := .headersComplete }, !B.isEmpty, B)) :
    stepOnce cfg p (blk ++ CRLF ++ B) =
      match (generalizing := false) r with
      | .error e => .error e
      | .ok q => .ok (afterHeaders q B) := by
  rw [stepOnce_eq, core_hdr _ (.inl hp), h]
  cases r with
  | error e => rfl
  | ok q =>
    show Except.ok (post ({ q with state := .headersComplete }, !B.isEmpty, B)) = _
    simp only [post, show (PState.headersComplete == PState.lineRcvd) = false from rfl, Bool.and_false, Bool.false_and,
      Bool.false_eq_true, if_false, beq_self_eq_true, Bool.true_and, afterHeaders, hasHeader]
    split
    · rename_i hc; simp only [hc, if_true]
    · rename_i hc; simp only [hc, if_false, Bool.false_eq_true]

theorem stepOnce_body_complete (cfg : Cfg) {p p2 : Parser} {raw rest : Bytes} {more : Bool}
    (hp : p.state = .headersComplete) (hpb : processBody p raw = .ok (p2, more, rest)) (hst : p2.state = .complete) :
    stepOnce cfg p raw = .ok (p2, more, rest) := by
  rw [stepOnce_eq, core_body raw (.inl hp), hpb]
  exact congrArg Except.ok (post_id more rest (fun h => by rw [hst] at h; cases h) (fun h => by rw [hst] at h; cases h))

theorem splitN1_two {v c : Bytes} (hv : SP ∉ v) (hc : SP ∉ c) :
    splitN1 SP 2 (v ++ SP :: c) = [v, c] := by
  simp only [splitN1, splitOnce1_render SP v _ hv, splitOnce1_of_not_mem SP c hc]

theorem setLineAttributes_eq (cfg : Cfg) (p : Parser) (u : Url) :
    setLineAttributes cfg p u =
      { p with url := some u, host := u.hostname, port := (setLineAttributes cfg p u).port, path := u.remainder } := by
  by_cases h : p.isTunnel = true <;> simp [setLineAttributes, h]

/-- the parser after a request line `m SP u SP v` (fresh parser, `total` bytes counted) -/
def reqLineParser (cfg : Cfg) (total : Nat) (m v : Bytes) (url : Url) : Parser :=
  let p0 : Parser := { (init .request) with totalSize := total, method := some m, isTunnel := m == cfg.connectMethod }
  let p1 : Parser := setLineAttributes cfg p0 url
  { p1 with version := some v, state := .lineRcvd }

theorem reqLineParser_eq (cfg : Cfg) (total : Nat) (m v : Bytes) (url : Url) :
    reqLineParser cfg total m v url =
      { ty := .request, state := .lineRcvd, totalSize := total, method := some m, version := some v,
        isTunnel := m == cfg.connectMethod, url := some url, host := url.hostname, path := url.remainder,
        port := (reqLineParser cfg total m v url).port } := by
  rw [reqLineParser, setLineAttributes_eq]; rfl

/-- the parser after a status line `v SP code [SP reason]` -/
def resLineParser (total : Nat) (v code : Bytes) (reason : Option Bytes) : Parser :=
  { (init .response) with
    totalSize := total, version := some v, code := some code, reason := reason, state := .lineRcvd }

theorem processLine_request (cfg : Cfg) (total : Nat) {m u v : Bytes} {url : Url} (rest : Bytes)
    (hne : m ≠ []) (hm : SP ∉ m) (hu : SP ∉ u) (hl : splitCRLF (m ++ SP :: (u ++ SP :: v)) = none)
    (hurl : Px.Url.fromBytes cfg.allowedSchemes u = .ok url) :
    processLine cfg { (init .request) with totalSize := total } (m ++ SP :: (u ++ SP :: v) ++ CRLF ++ rest) =
      .ok (reqLineParser cfg total m v url, !rest.isEmpty, rest) := by
  unfold processLine
  rw [splitCRLF_render hl rest]
  have hme : m.isEmpty = false := by cases m with
    | nil => exact absurd rfl hne
    | cons _ _ => rfl
  simp only [init, splitN1_three SP m u v hm hu, hme, Bool.false_eq_true, if_false, hurl, reqLineParser, Bool.false_or]

/-- non-empty, no SP / CR / LF -/
def plainTok (x : Bytes) : Bool := !x.isEmpty && x.all (fun c => c != 32 && c != 13 && c != 10)

theorem plainTok_spec {x : Bytes} (h : plainTok x = true) :
    x ≠ [] ∧ SP ∉ x ∧ ∀ c ∈ x, c ≠ CR := by
  simp only [plainTok, Bool.and_eq_true, Bool.not_eq_true', List.isEmpty_eq_false_iff, List.all_eq_true,
    byte_bne, ne_eq] at h
  refine ⟨h.1, fun hs => (h.2 _ hs).1.1 rfl, fun c hc => (h.2 c hc).1.2⟩

def reasonOK (reason : Option Bytes) : Bool :=
  match reason with | some r => r.all (fun c => c != 13 && c != 10) | none => true

/-- the status line `build_http_response` sends -/
def statusLine (status : Int) (version : Bytes) (reason : Option Bytes) : Bytes :=
  match reason with
  | some r => if r.isEmpty then version ++ SP :: intToDec status else version ++ SP :: (intToDec status ++ SP :: r)
  | none => version ++ SP :: intToDec status

/-- the reason phrase as the parser reports it: absent and empty are both `None` -/
def reasonSeen (reason : Option Bytes) : Option Bytes :=
  match reason with | some x => if x.isEmpty then none else some x | none => none

theorem intToDec_plain (i : Int) : ∀ c ∈ intToDec i, c ≠ SP ∧ c ≠ CR := by
  have hn : ∀ n, ∀ c ∈ natToDec n, c ≠ SP ∧ c ≠ CR := fun n c hc => ⟨(natToDec_noWs n c hc).2.2.2, (natToDec_noWs n c hc).2.1⟩
  intro c hc
  unfold intToDec at hc
  split at hc
  · rcases List.mem_cons.1 hc with rfl | hc
    · decide
    · exact hn _ c hc
  · exact hn _ c hc

/-- `split(SP, 2)`: the reason phrase may contain spaces -/
theorem processLine_status (cfg : Cfg) (total : Nat) (status : Int) {v : Bytes} (reason : Option Bytes) (rest : Bytes)
    (hv : plainTok v = true) (hr : reasonOK reason = true) :
    processLine cfg { (init .response) with totalSize := total } (statusLine status v reason ++ CRLF ++ rest) =
      .ok (resLineParser total v (intToDec status) (reasonSeen reason), !rest.isEmpty, rest) := by
  obtain ⟨-, hvsp, hvcr⟩ := plainTok_spec hv
  have hcsp : SP ∉ intToDec status := fun h => (intToDec_plain status _ h).1 rfl
  have hccr : ∀ c ∈ intToDec status, c ≠ CR := fun c hc => (intToDec_plain status c hc).2
  have two : processLine cfg { (init .response) with totalSize := total }
      (v ++ SP :: intToDec status ++ CRLF ++ rest) =
        .ok (resLineParser total v (intToDec status) none, !rest.isEmpty, rest) := by
    unfold processLine
    rw [splitCRLF_render (splitCRLF_none_of_noCR (noCR_sp hvcr hccr)) rest]
    simp only [init, splitN1_two hvsp hcsp, resLineParser]
  cases reason with
  | none => exact two
  | some x =>
    by_cases hx : x.isEmpty = true
    · simp only [statusLine, reasonSeen, hx, if_true]; exact two
    · have hxcr : ∀ c ∈ x, c ≠ CR := by
        simp only [reasonOK, List.all_eq_true, Bool.and_eq_true, byte_bne, ne_eq] at hr
        exact fun c hc => (hr c hc).1
      simp only [statusLine, reasonSeen, hx, if_false, Bool.false_eq_true]
      unfold processLine
      rw [splitCRLF_render (splitCRLF_none_of_noCR (noCR_sp hvcr (noCR_sp hccr hxcr))) rest]
      simp only [init, splitN1_three SP _ _ _ hvsp hcsp, resLineParser]

/-- what remains to be done after the header block: run the loop on the payload -/
def bodyPhase (cfg : Cfg) (fuel : Nat) (q : Parser) (B : Bytes) : Except Px.Parser.Err Parser :=
  (loop cfg fuel (afterHeaders q B).1 (afterHeaders q B).2.1 (afterHeaders q B).2.2).map finish

theorem afterHeaders_body (q : Parser) (B : Bytes) (h : q.contentExpected = true ∨ q.isChunked = true) :
    afterHeaders q B = ({ q with state := .headersComplete }, !B.isEmpty, B) := by
  unfold afterHeaders
  have : (!(q.contentExpected || q.isChunked) &&
      (B.isEmpty || q.ty == .request || hasHeader q (b "content-length"))) = false := by
    rcases h with h | h <;> simp [h]
  simp only [this, Bool.false_eq_true, if_false]

theorem afterHeaders_done (q : Parser) (B : Bytes) (hce : q.contentExpected = false) (hch : q.isChunked = false)
    (hB : B = [] ∨ q.ty = .request ∨ hasHeader q (b "content-length") = true) :
    afterHeaders q B = ({ q with state := .complete }, !B.isEmpty, B) := by
  unfold afterHeaders
  have : (!(q.contentExpected || q.isChunked) &&
      (B.isEmpty || q.ty == .request || hasHeader q (b "content-length"))) = true := by
    rw [hce, hch]
    rcases hB with h | h | h <;> simp [h]
  rw [if_pos this]

theorem bodyPhase_nobody (cfg : Cfg) (fuel : Nat) (q : Parser) (B : Bytes)
    (hce : q.contentExpected = false) (hch : q.isChunked = false)
    (hB : B = [] ∨ q.ty = .request ∨ hasHeader q (b "content-length") = true) :
    bodyPhase cfg fuel q B =
      .ok { q with state := .complete, buffer := if B.isEmpty then none else some B } := by
  unfold bodyPhase
  rw [afterHeaders_done q B hce hch hB, loop_done _ _ (.inr rfl)]
  rfl

theorem bodyPhase_one_step (cfg : Cfg) (fuel : Nat) (q p2 : Parser) {B rest : Bytes} {more : Bool}
    (h : q.contentExpected = true ∨ q.isChunked = true) (hB : B ≠ [])
    (hpb : processBody { q with state := .headersComplete } B = .ok (p2, more, rest)) (hst : p2.state = .complete) :
    bodyPhase cfg (fuel + 2) q B = .ok (finish (p2, rest)) := by
  unfold bodyPhase
  rw [afterHeaders_body q B h]
  simp only [show B.isEmpty = false by simpa using hB, Bool.not_false]
  rw [loop_succ _ _ PState.noConfusion, stepOnce_body_complete cfg rfl hpb hst]
  simp only
  rw [loop_done _ _ (.inr hst)]
  rfl

theorem bodyPhase_chunked (cfg : Cfg) (fuel : Nat) (q : Parser) (s : Px.Chunk.ChunkedStream) (tail : Bytes)
    (hch : q.isChunked = true) (hck : q.chunk = none) (hv : s.Valid) :
    bodyPhase cfg (fuel + 2) q (s.render ++ tail) =
      .ok { q with state := .complete, body := some s.decoded,
                   chunk := some { state := .complete, body := s.decoded, chunk := [], size := none },
                   buffer := if tail.isEmpty then none else some tail } := by
  have hne : s.render ++ tail ≠ [] := by simp [Px.Chunk.render_ne_nil s]
  refine bodyPhase_one_step cfg fuel q
    { q with state := .complete, body := some s.decoded,
             chunk := some { state := .complete, body := s.decoded, chunk := [], size := none } }
    (rest := tail) (more := false) (.inr hch) hne ?_ rfl
  unfold processBody
  simp only [hch, if_true, hck, Option.getD_none, Px.Chunk.parse_stream s hv Px.Chunk.init rfl rfl tail]
  simp [Px.Chunk.init]

theorem bodyPhase_cl (cfg : Cfg) (fuel : Nat) (q : Parser) (body tail clv : Bytes)
    (hch : q.isChunked = false) (hce : q.contentExpected = true) (hbd : q.body = none)
    (hcl : header q (b "content-length") = .ok clv)
    (hint : pyInt 10 clv = some (Int.ofNat body.length)) (hne : body ≠ []) :
    bodyPhase cfg (fuel + 2) q (body ++ tail) =
      .ok { q with state := .complete, body := some body,
                   buffer := if tail.isEmpty then none else some tail } := by
  refine bodyPhase_one_step cfg fuel q { q with state := .complete, body := some body }
    (rest := tail) (more := true) (.inl hce) (by simp [hne]) ?_ rfl
  unfold processBody
  unfold header at hcl ⊢
  simp only [hch, Bool.false_eq_true, if_false, hce, if_true, hbd, Option.getD_none, hcl, hint]
  have hb : body.isEmpty = false := by simpa using hne
  simp [hb, hne]

theorem length_le_block {α : Type} (line : α → Bytes) (xs : List α) :
    xs.length ≤ ((xs.map (fun x => line x ++ CRLF)).flatten).length := by
  induction xs with
  | nil => exact Nat.le_refl 0
  | cons x xs ih =>
    rw [List.map_cons, List.flatten_cons, List.length_append, List.length_cons, Nat.add_comm]
    -- each line contributes at least its CRLF
    refine Nat.add_le_add ?_ ih
    rw [List.length_append]
    exact Nat.le_add_left 1 _

theorem length_le_renderHdrs (H : HDict) : H.length ≤ (renderHdrs H).length :=
  length_le_block (fun e : Bytes × Bytes => buildHeader e.1 e.2) H

/-- start line consumed by the first iteration, header block by the second: generic in the start line
    (`p1` = parser after it) and in the spelling of the header block (`blk`, read as the fold `r`) -/
theorem parse_pkt_of_line (cfg : Cfg) (ty : PType) (p1 : Parser) (r : Except Px.Parser.Err Parser)
    (line blk B pkt : Bytes) (hpkt : pkt = line ++ CRLF ++ (blk ++ CRLF ++ B))
    (hpl : processLine cfg { (init ty) with totalSize := pkt.length } pkt =
      .ok (p1, !(blk ++ CRLF ++ B).isEmpty, blk ++ CRLF ++ B))
    (hls : p1.state = .lineRcvd) (hnh : p1.ty = .request ∨ blk ++ CRLF ++ B ≠ CRLF)
    (hblk : processHeaders ((blk ++ CRLF ++ B).length + 1) p1 (blk ++ CRLF ++ B) =
      match r with
      | .error e => .error e
      | .ok q => .ok ({ q with state := .headersComplete }, !B.isEmpty, B)) :
    parse cfg (init ty) pkt =
      match (generalizing := false) r with
      | .error e => .error e
      | .ok q => bodyPhase cfg (pkt.length + 6) q B := by
  have hnc : (p1.ty == .response && blk ++ CRLF ++ B == CRLF) = false := by
    rcases hnh with h | h
    · rw [h]; rfl
    · rw [bytes_beq_false.2 h, Bool.and_false]
  rw [parse_init cfg ty (hpkt ▸ append_crlf_ne_nil _ _), loop_succ _ _ PState.noConfusion (pkt.length + 7),
    stepOnce_line cfg rfl hpl hls, hnc, if_neg Bool.false_ne_true]
  simp only [List.isEmpty_eq_false_iff.2 (append_crlf_ne_nil blk B), Bool.not_false]
  rw [loop_succ _ _ (by rw [hls]; decide) (pkt.length + 6), stepOnce_headers cfg _ hls blk B r hblk]
  cases r with
  | error e => rfl
  | ok q => rfl

/-- `processHeaders_render` with the fuel `stepOnce` gives it -/
theorem processHeaders_render' (H : HDict) (hH : ∀ e ∈ H, HdrOK e.1 e.2) (p : Parser) (hp : p.state = .lineRcvd)
    (B : Bytes) :
    processHeaders ((renderHdrs H ++ CRLF ++ B).length + 1) p (renderHdrs H ++ CRLF ++ B) =
      match foldHdrs p H with
      | .error e => .error e
      | .ok q => .ok ({ q with state := .headersComplete }, !B.isEmpty, B) :=
  processHeaders_render H hH p (.inl hp) B _ (Nat.lt_succ_of_le (Nat.le_trans (length_le_renderHdrs H)
    (by rw [List.append_assoc, List.length_append]; exact Nat.le_add_right _ _)))

theorem parse_request_pkt (cfg : Cfg) {m u v : Bytes} {url : Url} (H : HDict) (B : Bytes)
    (hmne : m ≠ []) (hm : SP ∉ m) (hu : SP ∉ u) (hl : splitCRLF (m ++ SP :: (u ++ SP :: v)) = none)
    (hurl : Px.Url.fromBytes cfg.allowedSchemes u = .ok url)
    (hH : ∀ e ∈ H, HdrOK e.1 e.2) (pkt : Bytes)
    (hpkt : pkt = m ++ SP :: (u ++ SP :: v) ++ CRLF ++ (renderHdrs H ++ CRLF ++ B)) :
    parse cfg (init .request) pkt =
      match foldHdrs (reqLineParser cfg pkt.length m v url) H with
      | .error e => .error e
      | .ok q => bodyPhase cfg (pkt.length + 6) q B := by
  refine parse_pkt_of_line cfg .request (reqLineParser cfg pkt.length m v url) _ _ _ B pkt hpkt ?_ (by rw [reqLineParser_eq])
    (.inl (by rw [reqLineParser_eq])) (processHeaders_render' H hH _ (by rw [reqLineParser_eq]) B)
  rw [hpkt]
  exact processLine_request cfg _ _ hmne hm hu hl hurl

theorem parse_request_tok (cfg : Cfg) {m u v : Bytes} {url : Url} (H : HDict) (B : Bytes)
    (hm : plainTok m = true) (hu : plainTok u = true) (hv : plainTok v = true)
    (hurl : Px.Url.fromBytes cfg.allowedSchemes u = .ok url) (hH : ∀ e ∈ H, HdrOK e.1 e.2) (pkt : Bytes)
    (hpkt : pkt = m ++ SP :: (u ++ SP :: v) ++ CRLF ++ (renderHdrs H ++ CRLF ++ B)) :
    parse cfg (init .request) pkt =
      match foldHdrs (reqLineParser cfg pkt.length m v url) H with
      | .error e => .error e
      | .ok q => bodyPhase cfg (pkt.length + 6) q B := by
  obtain ⟨hmne, hmsp, hmcr⟩ := plainTok_spec hm
  obtain ⟨-, husp, hucr⟩ := plainTok_spec hu
  obtain ⟨-, -, hvcr⟩ := plainTok_spec hv
  exact parse_request_pkt cfg H B hmne hmsp husp (splitCRLF_none_of_noCR (noCR_sp hmcr (noCR_sp hucr hvcr))) hurl hH pkt hpkt

theorem rest_ne_crlf (H : HDict) (B : Bytes) (h : H ≠ [] ∨ B ≠ []) : renderHdrs H ++ CRLF ++ B ≠ CRLF := by
  intro e
  have hl : (renderHdrs H).length + B.length + CRLF.length = 0 + CRLF.length := by
    rw [Nat.zero_add, Nat.add_right_comm, ← List.length_append, ← List.length_append, e]
  obtain ⟨h1, h2⟩ := Nat.eq_zero_of_add_eq_zero (Nat.add_right_cancel hl)
  rcases h with h | h
  · exact h (List.eq_nil_of_length_eq_zero (Nat.le_zero.1 (h1 ▸ length_le_renderHdrs H)))
  · exact h (List.eq_nil_of_length_eq_zero h2)

theorem parse_status_headerless (cfg : Cfg) (status : Int) (v : Bytes) (reason : Option Bytes)
    (hv : plainTok v = true) (hr : reasonOK reason = true) (pkt : Bytes)
    (hpkt : pkt = statusLine status v reason ++ CRLF ++ CRLF) :
    parse cfg (init .response) pkt =
      .ok { resLineParser pkt.length v (intToDec status) (reasonSeen reason) with state := .complete } := by
  have hpl := processLine_status cfg pkt.length status reason CRLF hv hr
  rw [← hpkt] at hpl
  rw [parse_init cfg _ (hpkt ▸ append_crlf_ne_nil _ _), loop_succ _ _ PState.noConfusion (pkt.length + 7),
    stepOnce_line cfg rfl hpl rfl, if_pos (by rfl)]
  simp only
  rw [loop_done _ _ (.inr rfl)]
  rfl

theorem parse_status_pkt (cfg : Cfg) (status : Int) (v : Bytes) (reason : Option Bytes) (H : HDict) (B : Bytes)
    (hv : plainTok v = true) (hr : reasonOK reason = true)
    (hH : ∀ e ∈ H, HdrOK e.1 e.2) (pkt : Bytes)
    (hpkt : pkt = statusLine status v reason ++ CRLF ++ (renderHdrs H ++ CRLF ++ B)) :
    parse cfg (init .response) pkt =
      match foldHdrs (resLineParser pkt.length v (intToDec status) (reasonSeen reason)) H with
      | .error e => .error e
      | .ok q => bodyPhase cfg (pkt.length + 6) q B := by
  by_cases hnh : H = [] ∧ B = []
  · -- nothing but the blank line follows: the first iteration completes the message, as the body phase would
    obtain ⟨rfl, rfl⟩ := hnh
    rw [parse_status_headerless cfg status v reason hv hr pkt hpkt]
    exact (bodyPhase_nobody cfg _ _ [] rfl rfl (.inl rfl)).symm
  · refine parse_pkt_of_line cfg .response _ _ _ _ B pkt hpkt ?_ rfl
      (.inr (rest_ne_crlf H B (Decidable.not_and_iff_not_or_not.1 hnh)))
      (processHeaders_render' H hH (resLineParser pkt.length v (intToDec status) (reasonSeen reason)) rfl B)
    rw [hpkt]
    exact processLine_status cfg _ status reason _ hv hr

end Px.Codec

import PxProofs.PersistLemmas
/-!
# C04: benign tick schedules refine the segment-level run

`segRun` folds the application step `appOf` over the client's segments alone.
`frun_refines`: for every benign tick schedule, the connection-level run ends in
the phase, upstream byte stream and connect log that `segRun` computes on the
segments the client socket delivered (`clientSegs`), is not torn down, and keeps
the C01 downstream invariant.
-/
namespace Px.Persist
open Px Px.Relay Px.Conn Px.Parser

/-- the application step ran normally and stayed on the plain-HTTP path -/
def smooth (a : AppRes) : Bool :=
  (match a.app with | .ok none none false => true | _ => false) &&
  (match a.kind with | none => true | some k => k == .http)

def items (a : AppRes) : Bytes := a.ups.flatten

def conns (a : AppRes) : List Connect.Addr := match a.conn with | some x => [x] | none => []

/-- the segments `handle_data` is given, in order -/
def clientSegs (ticks : List Tick) : List Bytes :=
  ticks.filterMap (fun t => if t.cR then segOf t.cRecv else none)

def segRun (cfg : Forward.Cfg) (ok : Bool) : Phase → List Bytes → Option (Phase × Bytes × List Connect.Addr)
  | ph, [] => some (ph, [], [])
  | ph, x :: xs =>
    if smooth (appOf cfg ok ph x) then
      (segRun cfg ok (appOf cfg ok ph x).phase xs).map
        (fun r => (r.1, items (appOf cfg ok ph x) ++ r.2.1, conns (appOf cfg ok ph x) ++ r.2.2))
    else none

theorem segRun_append (cfg : Forward.Cfg) (ok : Bool) (ph : Phase) (a b : List Bytes) :
    segRun cfg ok ph (a ++ b) =
      (segRun cfg ok ph a).bind (fun r => (segRun cfg ok r.1 b).map (fun q => (q.1, r.2.1 ++ q.2.1, r.2.2 ++ q.2.2))) := by
  induction a generalizing ph with
  | nil =>
    simp only [List.nil_append, segRun, Option.bind_some, List.nil_append]
    cases segRun cfg ok ph b <;> simp
  | cons x xs ih =>
    simp only [List.cons_append, segRun]
    split
    · rw [ih]
      cases segRun cfg ok (appOf cfg ok ph x).phase xs with
      | none => simp
      | some r =>
        simp only [Option.map_some, Option.bind_some]
        cases segRun cfg ok r.1 b with
        | none => simp
        | some q => simp [List.append_assoc]
    · simp

/-- the relay's kind fits the phase: `local` (no upstream yet) until the first request is complete, `http` after -/
def PhaseOk (s : FSt) : Prop :=
  (∃ p, s.phase = .first p ∧ s.rs.kind = .local) ∨
  (∃ req pipe, s.phase = .http req pipe ∧ s.rs.kind = .http)

theorem clientSegs_cons (t : Tick) (ts : List Tick) : clientSegs (t :: ts) = (readOf t).toList ++ clientSegs ts := by
  show (t :: ts).filterMap readOf = (readOf t).toList ++ ts.filterMap readOf
  rw [List.filterMap_cons]
  cases readOf t <;> rfl

theorem segOf_ne_nil {o : RecvOut} {raw : Bytes} (h : segOf o = some raw) : raw ≠ [] := by
  cases o <;> simp only [segOf, reduceCtorEq] at h
  split at h <;> simp_all

theorem smooth_app {a : AppRes} (h : smooth a = true) : a.app = .ok none none false := by
  unfold smooth at h
  cases ha : a.app with
  | raised => simp [ha] at h
  | ok u cl close =>
    cases u <;> cases cl <;> cases close <;> simp [ha] at h
    rfl

theorem appOf_first_smooth (cfg : Forward.Cfg) (ok : Bool) (p : Parser) (raw : Bytes) {A : AppRes}
    (hA : appOf cfg ok (.first p) raw = A) (hs : smooth A = true) :
    (∃ p', A.phase = .first p' ∧ A.kind = none) ∨ (∃ r q, A.phase = .http r q ∧ A.kind = some .http) := by
  unfold appOf at hA
  simp only at hA
  split at hA
  · subst hA; simp [smooth] at hs
  · split at hA
    · subst hA; exact .inl ⟨_, rfl, rfl⟩
    · split at hA
      · split at hA <;> subst hA <;> exact .inr ⟨_, _, rfl, rfl⟩
      · subst hA; simp [smooth] at hs
      · subst hA; simp [smooth] at hs
      · subst hA; simp [smooth] at hs

theorem appOf_phaseOk (cfg : Forward.Cfg) (ok : Bool) {s : FSt} (hp : PhaseOk s) {raw : Bytes} {A : AppRes}
    (hA : appOf cfg ok s.phase raw = A) (hs : smooth A = true) (rs' : St) (cs : List Connect.Addr)
    (hk : rs'.kind = A.kind.getD s.rs.kind) : PhaseOk ⟨A.phase, rs', cs⟩ := by
  rcases hp with ⟨p, hph, hkl⟩ | ⟨req, pipe, hph, hkh⟩ <;> rw [hph] at hA
  · rcases appOf_first_smooth cfg ok p raw hA hs with ⟨p', e1, e2⟩ | ⟨r, q, e1, e2⟩
    · exact .inl ⟨p', e1, by rw [hk, e2]; exact hkl⟩
    · exact .inr ⟨r, q, e1, by rw [hk, e2]; rfl⟩
  · subst hA
    exact .inr ⟨req, _, rfl, hk.trans hkh⟩

theorem PhaseOk.kind {s : FSt} (h : PhaseOk s) : s.rs.kind ≠ .tunnel := by
  rcases h with ⟨_, _, hk⟩ | ⟨_, _, _, hk⟩ <;> rw [hk] <;> decide

theorem PhaseOk.keep {s : FSt} (h : PhaseOk s) (rs' : St) (hk : rs'.kind = s.rs.kind) :
    PhaseOk { s with rs := rs' } := by
  rcases h with ⟨p, hph, hk'⟩ | ⟨r, q, hph, hk'⟩
  · exact .inl ⟨p, hph, by rw [hk]; exact hk'⟩
  · exact .inr ⟨r, q, hph, by rw [hk]; exact hk'⟩

/-- `Refines` for one tick, which goes on from `s'` -/
structure StepRefines (cfg : Forward.Cfg) (ok : Bool) (s : FSt) (t : Tick) (s' : FSt) (ph : Phase) (up : Bytes)
    (cs : List Connect.Addr) : Prop where
  step : fstep cfg ok s t = (s', .cont)
  phaseOk : PhaseOk s'
  alive : Alive s'.rs
  down : D s'.rs = s'.rs.recvU
  phase : s'.phase = ph
  up : U s'.rs = U s.rs ++ up
  connects : s'.connects = s.connects ++ cs

theorem fstep_benign (cfg : Forward.Cfg) (ok : Bool) (s : FSt) (t : Tick) (hp : PhaseOk s) (ha : Alive s.rs)
    (hb : benign t = true) (hd : D s.rs = s.rs.recvU) {ph : Phase} {up : Bytes} {cs : List Connect.Addr}
    (hs : segRun cfg ok s.phase (readOf t).toList = some (ph, up, cs)) :
    ∃ s', StepRefines cfg ok s t s' ph up cs := by
  have hk : s.rs.kind ≠ .tunnel := hp.kind
  -- a round in which `handle_data` is not called: only the relay state changes
  have idle : ∀ t' : Tick, benign t' = true → readOf t' = none → readOf t = none →
      (Quiet s.rs (step s.rs t').1 [] →
        fstep cfg ok s t = ({ s with rs := (step s.rs t').1 }, (step s.rs t').2)) →
      ∃ s', StepRefines cfg ok s t s' ph up cs := by
    intro t' hb' hr' hr e
    obtain ⟨h1, q⟩ := step_benign s.rs t' hk ha hb' (by simp [hr'])
    rw [hr'] at q
    rw [hr] at hs
    cases hs
    exact ⟨_, by rw [e q, h1], hp.keep _ q.kind, q.alive ha, q.downInv hd, rfl, by simp [q.up], by simp⟩
  cases hseg : segOf t.cRecv with
  | none =>
    exact idle t hb (by simp [readOf, hseg]) (by simp [readOf, hseg]) fun _ => by
      unfold fstep fstepWith; rw [hseg]; rfl
  | some raw =>
    obtain ⟨a, ha'⟩ : ∃ a, appOf cfg ok s.phase raw = a := ⟨_, rfl⟩
    cases hcR : t.cR with
    | false =>
      have hr : readOf t = none := by simp [readOf, hcR]
      refine idle { t with app := a.app } (benign_app _ hb) hr hr fun q => ?_
      unfold fstep fstepWith
      rw [hseg]
      simp only [ha', if_true, q.recvC, List.append_nil, bne_self_eq_false, Bool.false_and, Bool.not_false]
    | true =>
      have hr : readOf t = some raw := by simp [readOf, hcR, hseg]
      rw [hr, Option.toList, segRun, ha'] at hs
      have hsm : smooth a = true := Decidable.byContradiction fun h => by rw [if_neg h] at hs; cases hs
      rw [if_pos hsm] at hs
      cases hs
      obtain ⟨h1, q⟩ := step_benign s.rs { t with app := a.app } hk ha (benign_app _ hb) (fun _ => smooth_app hsm)
      rw [show readOf { t with app := a.app } = some raw from hr, Option.getD_some] at q
      -- the segment was read, so `handle_data` got it
      have hcons : ((step s.rs { t with app := a.app }).1.recvC.length != s.rs.recvC.length &&
          !(s.rs.kind == .http && s.rs.upstream.closed)) = true := by
        rw [q.recvC, ha.upOpen]
        simp only [List.length_append, Bool.and_false, Bool.not_false, Bool.and_true, bne_iff_ne, ne_eq]
        have : 0 < raw.length := List.length_pos_iff.mpr (segOf_ne_nil hseg)
        omega
      have ha2 := q.alive ha
      obtain ⟨F, hF⟩ : ∃ F, fstep cfg ok s t = F := ⟨_, rfl⟩
      have e := hF
      unfold fstep fstepWith at e
      rw [hseg] at e
      simp only [ha', if_true, hcons, Bool.not_true, Bool.false_eq_true, if_false, h1] at e
      subst e
      refine ⟨_, hF, ?_, ⟨ha2.mustFlush, ha2.readsTeared, ha2.upOpen⟩, q.downInv hd, rfl, ?_,
        by rw [List.append_nil]; rfl⟩
      · exact appOf_phaseOk cfg ok hp ha' hsm _ _ (by show a.kind.getD _ = _; rw [q.kind])
      · have := q.up
        simp only [U, items, List.flatten_append, List.append_nil] at this ⊢
        rw [← List.append_assoc, this]

structure Refines (cfg : Forward.Cfg) (ok : Bool) (s : FSt) (ticks : List Tick) (ph : Phase) (up : Bytes)
    (cs : List Connect.Addr) : Prop where
  cont : (frun cfg ok s ticks).2 = .cont
  phase : (frun cfg ok s ticks).1.phase = ph
  up : U (frun cfg ok s ticks).1.rs = U s.rs ++ up
  connects : (frun cfg ok s ticks).1.connects = s.connects ++ cs
  alive : Alive (frun cfg ok s ticks).1.rs
  /-- the C01 downstream invariant -/
  down : D (frun cfg ok s ticks).1.rs = (frun cfg ok s ticks).1.rs.recvU
  phaseOk : PhaseOk (frun cfg ok s ticks).1

theorem Refines.cons {cfg : Forward.Cfg} {ok : Bool} {s s' : FSt} {t : Tick} {ts : List Tick} {ph : Phase}
    {x up : Bytes} {y cs : List Connect.Addr} (h1 : fstep cfg ok s t = (s', .cont))
    (h : Refines cfg ok s' ts ph up cs) (hU : U s'.rs = U s.rs ++ x) (hc : s'.connects = s.connects ++ y) :
    Refines cfg ok s (t :: ts) ph (x ++ up) (y ++ cs) := by
  have e : frun cfg ok s (t :: ts) = frun cfg ok s' ts := by rw [frun, h1]
  exact ⟨by rw [e]; exact h.cont, by rw [e]; exact h.phase, by rw [e, h.up, hU, List.append_assoc],
    by rw [e, h.connects, hc, List.append_assoc], by rw [e]; exact h.alive, by rw [e]; exact h.down,
    by rw [e]; exact h.phaseOk⟩

theorem frun_refines (cfg : Forward.Cfg) (ok : Bool) (ticks : List Tick) (s : FSt) (hp : PhaseOk s)
    (ha : Alive s.rs) (hd : D s.rs = s.rs.recvU) (hb : ∀ t ∈ ticks, benign t = true)
    (ph : Phase) (up : Bytes) (cs : List Connect.Addr)
    (hseg : segRun cfg ok s.phase (clientSegs ticks) = some (ph, up, cs)) :
    Refines cfg ok s ticks ph up cs := by
  induction ticks generalizing s up cs with
  | nil =>
    simp only [clientSegs, List.filterMap_nil, segRun, Option.some.injEq, Prod.mk.injEq] at hseg
    obtain ⟨rfl, rfl, rfl⟩ := hseg
    exact ⟨rfl, rfl, by simp [frun], by simp [frun], ha, hd, hp⟩
  | cons t ts ih =>
    rw [clientSegs_cons, segRun_append] at hseg
    obtain ⟨⟨ph₁, up₁, cs₁⟩, h₁, h₂⟩ := Option.bind_eq_some_iff.1 hseg
    obtain ⟨⟨ph₂, up₂, cs₂⟩, h₃, e⟩ := Option.map_eq_some_iff.1 h₂
    simp only [Prod.mk.injEq] at e
    obtain ⟨rfl, rfl, rfl⟩ := e
    obtain ⟨s', f⟩ := fstep_benign cfg ok s t hp ha (hb t (by simp)) hd h₁
    exact Refines.cons f.step
      (ih s' f.phaseOk f.alive f.down (fun t' h => hb t' (by simp [h])) up₂ cs₂ (f.phase ▸ h₃)) f.up f.connects

theorem finit_phaseOk (m : Nat) : PhaseOk (finit m) := .inl ⟨_, rfl, rfl⟩

theorem finit_alive (m : Nat) : Alive (finit m).rs := ⟨rfl, rfl, rfl⟩

theorem finit_U (m : Nat) : U (finit m).rs = [] := rfl

end Px.Persist

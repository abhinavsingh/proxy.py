import PxModel.Listen
import PxProofs.ListenLemmas
/-!
# C19 — the proxy listens where configured, reports its ports truthfully, shuts down cleanly

The model (`PxModel/Listen.lean`) is tied to `proxy/core/listener/pool.py`,
`proxy/core/listener/tcp.py`, `proxy/core/listener/unix.py` and
`proxy/proxy.py` (`Proxy.setup` / `Proxy.shutdown`) by `harness/c19.py`, which
starts and stops the real `proxy.Proxy`.

Quantifier of the property (`InQuantifier`): any number of addresses and ports
(`--hostname`, `--hostnames`, `--port`, `--ports`, lists of any length),
OS-assigned ports (0) only together with a single listening address.
Environment hypotheses, each an explicit predicate with an inhabitant (`exEnv` below,
`sortDedup_isSetList`):
`SetOrder` (the address list is an iteration order of the Python set),
`IsSetList` (`list(set)` enumerates the set once each, in any order),
`KernelFresh` (`bind(addr, 0)` yields a non-zero port not in use on `addr`).
"After start-up" is the hypothesis `setup … = .started st`; `C19_starts` and
`C19_duplicate_fixed_fails` say exactly when that happens.

**Partial with respect to the full property statement**: "every configured
endpoint *accepts connections*", "after shutdown no endpoint accepts" and "no
child process remains" are facts about the kernel's socket and process tables
that no executable model here exhibits.  At model level the theorems give
"a listener is bound for every configured (address, port) pair"
(`C19_multi_host`) and "the pool is empty after shutdown" (`C19_files_gone`);
the runtime facts themselves are checked by the oracle of `harness/c19.py` on
the live implementation (connect + request to every endpoint, connect refused
afterwards, `/proc` scan for descendants) for the configurations run.
-/
namespace Px.Listen

/-- `--hostname 1 --hostnames 2 6 --port 8000 --ports 8001 8002`: three addresses, fixed ports -/
def exMulti : Config :=
  { unix := false, hostname := 1, hostnames := [2, 6], port := 8000, ports := [8001, 8002],
    portFile := true, pidFile := true }

/-- `--port 0 --ports 0 9000 0` on one address -/
def exZero : Config :=
  { unix := false, hostname := 1, hostnames := [1], port := 0, ports := [0, 9000, 0],
    portFile := true, pidFile := true }

/-- the kernel hands out 40000, 40001, … ; sets iterate sorted -/
def exEnv (hs : List Host) : Env :=
  { hs := hs, assign := fun i => 40000 + i, setOrder := sortDedup, pid := 4242 }

example : InQuantifier exMulti := by decide
example : InQuantifier exZero := by decide
example : ¬ InQuantifier { exZero with hostnames := [2] } := by decide
example : SetOrder exMulti [6, 2, 1] := by decide
example : SetOrder exZero [1] := by decide
example : KernelFresh exZero (exEnv [1]) := by decide
example : KernelFresh exMulti (exEnv [6, 2, 1]) := by decide
example : AssignAvoidsFixed exZero (exEnv [1]) := by
  intro i p hp hp0
  simp [exZero, tcpPorts] at hp
  rcases hp with rfl | rfl | rfl | rfl <;> simp [exEnv] at hp0 ⊢ <;> omega

/-- **C19 report (no unix socket).**  Once `Proxy.setup` has returned,
`flags.port :: flags.ports` names *exactly* the TCP ports some listener is bound
to, without duplicates or 0; the pool starts with the listener on `flags.port`;
the port file holds `flags.port` then `flags.ports`, the pid file the pid.

Duplicates among the requested fixed ports cannot occur here: they make
start-up fail (`C19_duplicate_fixed_fails`), so the `set`/`remove`
de-duplication in `Proxy.setup` never drops anything. -/
theorem C19_report (c : Config) (e : Env) (fs0 : Fs) (st : Started)
    (hq : InQuantifier c) (hso : SetOrder c e.hs) (hset : IsSetList e.setOrder) (hk : KernelFresh c e)
    (hnu : c.unix = false) (hst : setup c e fs0 = .started st) :
    st.flagsPort = boundPrimary c e ∧
    st.flagsPorts.Perm (boundAdditional c e) ∧
    (st.flagsPort :: st.flagsPorts).Nodup ∧
    0 ∉ st.flagsPort :: st.flagsPorts ∧
    (∀ p, p ∈ boundPorts st.pool ↔ p ∈ st.flagsPort :: st.flagsPorts) ∧
    (∃ h, st.pool.head? = some (.tcp h st.flagsPort)) ∧
    (c.portFile = true → st.fs.portFile = some (st.flagsPort :: st.flagsPorts)) ∧
    (c.pidFile = true → st.fs.pidFile = some e.pid) := by
  have hne := setOrder_ne_nil c e.hs hso
  obtain ⟨hnd, hnz, hperm⟩ := setup_report c e fs0 st hso hset hk hst
  obtain rfl := setup_started c e fs0 st hne hst
  have hbound := boundPorts_started c e fs0 hq hso
  rw [resolvePorts_tcpPorts] at hnd hnz hbound
  simp only [startedState, hnu, Bool.false_eq_true, if_false] at hnd hnz hbound ⊢
  have hmem : ∀ x, x ∈ boundPrimary c e :: reportedAdditional c e ↔ x ∈ boundPrimary c e :: boundAdditional c e := by
    intro x; rw [List.mem_cons, List.mem_cons, hperm.mem_iff]
  rw [writePortFile_eq]
  refine ⟨trivial, hperm, ?_, fun hm => hnz ((hmem 0).1 hm), fun p => by rw [hbound, hmem], ?_,
    fun h => by simp [h, hnu], fsListening_pidFile c e fs0⟩
  · exact List.nodup_cons.2 ⟨fun hm => (List.nodup_cons.1 hnd).1 (hperm.mem_iff.1 hm), (hset _).1⟩
  · obtain ⟨h0, hs', hhs⟩ := List.exists_cons_of_ne_nil hne
    rw [hhs, resolve_plan_cons, resolvePorts_tcpPorts]
    exact ⟨h0, by simp [pre, hnu, tcpOf]⟩

/-- **C19 unix.**  With `--unix-socket-path` there is no primary TCP listener:
the pool starts with the unix listener, `flags.port` keeps the configured
(unused) value, and `flags.ports` / the port file name exactly the bound TCP
ports, whatever the unused `--port` value is (also when an additional port
equals it, the `fix:` commit 81e2038). -/
theorem C19_unix (c : Config) (e : Env) (fs0 : Fs) (st : Started)
    (hq : InQuantifier c) (hso : SetOrder c e.hs) (hset : IsSetList e.setOrder) (hk : KernelFresh c e)
    (hu : c.unix = true) (hst : setup c e fs0 = .started st) :
    st.flagsPort = c.port ∧
    st.flagsPorts.Perm (boundAdditional c e) ∧
    st.flagsPorts.Nodup ∧
    0 ∉ st.flagsPorts ∧
    (∀ p, p ∈ boundPorts st.pool ↔ p ∈ st.flagsPorts) ∧
    st.pool.head? = some .unix ∧
    st.fs.unixPath = true ∧
    (c.portFile = true → st.fs.portFile = some st.flagsPorts) ∧
    (c.pidFile = true → st.fs.pidFile = some e.pid) := by
  obtain ⟨_, hnz, hperm⟩ := setup_report c e fs0 st hso hset hk hst
  obtain rfl := setup_started c e fs0 st (setOrder_ne_nil c e.hs hso) hst
  have hbound := boundPorts_started c e fs0 hq hso
  rw [resolvePorts_tcpPorts] at hnz hbound
  simp only [startedState, hu, if_true] at hnz hbound ⊢
  rw [writePortFile_eq]
  exact ⟨trivial, hperm, (hset _).1, fun hm => hnz (hperm.mem_iff.1 hm), fun p => by rw [hbound, hperm.mem_iff],
    by rw [pre, if_pos hu]; rfl, fsListening_unixPath c e fs0 hu, fun h => by simp [h, hu],
    fsListening_pidFile c e fs0⟩

/-- **C19 several addresses.**  With fixed ports (no 0), once `Proxy.setup` has
returned the pool holds a TCP listener for *every* pair (configured address,
configured TCP port) and for nothing else. -/
theorem C19_multi_host (c : Config) (e : Env) (fs0 : Fs) (st : Started)
    (hfix : 0 ∉ tcpPorts c) (hso : SetOrder c e.hs) (hst : setup c e fs0 = .started st) :
    (∀ h p, Listener.tcp h p ∈ st.pool ↔ (h = c.hostname ∨ h ∈ c.hostnames) ∧ p ∈ tcpPorts c) ∧
    st.pool.length = off c + e.hs.length * (tcpPorts c).length := by
  have hpool : st.pool = pre c ++ (resolve e.assign (off c) (plan c e.hs)).map tcpOf := by
    rw [setup_started c e fs0 st (setOrder_ne_nil c e.hs hso) hst]; rfl
  rw [resolve_fixed _ _ _ (plan_ne_zero c e.hs hfix)] at hpool
  constructor
  · intro h p
    have hhost : h ∈ e.hs ↔ (h = c.hostname ∨ h ∈ c.hostnames) :=
      (Iff.intro (hso.2.1 h) (hso.2.2 h)).trans List.mem_cons
    rw [hpool, ← hhost]
    have hpre : Listener.tcp h p ∉ pre c := by unfold pre; split <;> simp
    simp only [List.mem_append, hpre, false_or, List.mem_map, tcpOf]
    constructor
    · rintro ⟨x, hx, hxe⟩
      cases hxe
      exact (mem_plan c e.hs x).1 hx
    · intro hm
      exact ⟨(h, p), (mem_plan c e.hs (h, p)).2 hm, rfl⟩
  · rw [hpool, List.length_append, List.length_map, plan_length]
    unfold pre off; split <;> simp

/-- **C19 files gone.**  After `Proxy.shutdown()` the port file, the pid file
and the unix socket path are absent and no listener is left in the pool, for
every state `st`, in particular every state `setup` returns. -/
theorem C19_files_gone (c : Config) (st : Started) :
    (c.portFile = true → (shutdown c st).fs.portFile = none) ∧
    (c.pidFile = true → (shutdown c st).fs.pidFile = none) ∧
    (c.unix = true → (shutdown c st).fs.unixPath = false) ∧
    (shutdown c st).pool = [] ∧ boundPorts (shutdown c st).pool = [] := by
  refine ⟨?_, ?_, ?_, rfl, rfl⟩
  · intro h; simp only [shutdown, h, Bool.true_and]; cases st.fs.portFile <;> simp
  · intro h; simp only [shutdown, h, Bool.true_and]; cases st.fs.pidFile <;> simp
  · intro h; simp [shutdown, h]

/-- the files were really there before: what `C19_files_gone` removes is what `C19_report` wrote -/
example :
    setup exZero (exEnv [1]) ⟨none, none, false⟩ = .started
      { pool := [.tcp 1 40000, .tcp 1 40001, .tcp 1 9000, .tcp 1 40003], flagsPort := 40000,
        flagsPorts := [9000, 40001, 40003],
        fs := ⟨some [40000, 9000, 40001, 40003], some 4242, false⟩ } ∧
    (shutdown exZero ⟨[.tcp 1 40000], 40000, [9000, 40001, 40003],
        ⟨some [40000, 9000, 40001, 40003], some 4242, false⟩⟩).fs = ⟨none, none, false⟩ := by
  decide

/-- **C19 start-up succeeds** whenever the requested fixed ports are pairwise
distinct and the kernel does not hand out one of them (so the hypothesis
`setup … = .started st` of the theorems above is satisfiable for every such
configuration, in or out of the quantifier). -/
theorem C19_starts (c : Config) (e : Env) (fs0 : Fs)
    (hso : SetOrder c e.hs) (hnd : ((tcpPorts c).filter (· ≠ 0)).Nodup) (hav : AssignAvoidsFixed c e) :
    ∃ st, setup c e fs0 = .started st := by
  obtain ⟨r, hr⟩ := bindAll_succeeds e.assign (off c) [] (plan c e.hs)
    (plan_fixed_nodup c e.hs hso.1 hnd) (fun _ _ _ => by simp)
    (fun j x hx hx0 => hav j x.2 ((mem_plan c e.hs x).1 hx).2 hx0)
  obtain ⟨_, hs⟩ | ⟨he, _⟩ := setup_cases c e fs0 (setOrder_ne_nil c e.hs hso)
  · exact ⟨_, hs⟩
  · rw [hr] at he; cases he

/-- **C19 duplicate fixed ports.**  What the code does when a fixed port is
requested twice for the same address (`--port A --ports A`, `--ports B B`):
the second `bind` raises `OSError(EADDRINUSE)` out of `Proxy.setup`, for every
environment; nothing is reported, and since `__exit__` never runs the pid file
(and the unix path) written before are left behind. -/
theorem C19_duplicate_fixed_fails (c : Config) (e : Env) (fs0 : Fs)
    (hso : SetOrder c e.hs) (hdup : ¬ ((tcpPorts c).filter (· ≠ 0)).Nodup) :
    setup c e fs0 = .failed .addrInUse (fsListening c e fs0) ∧
    (c.pidFile = true → (fsListening c e fs0).pidFile = some e.pid) := by
  constructor
  · have hne := setOrder_ne_nil c e.hs hso
    obtain ⟨hb, _⟩ | ⟨_, hs⟩ := setup_cases c e fs0 hne
    · -- had every `bind` succeeded, the fixed requests on the first address would be distinct
      obtain ⟨h0, hs', hhs⟩ := List.exists_cons_of_ne_nil hne
      have h1 := (bindAll_ok_fixed _ _ _ _ _ hb).1
      rw [hhs, plan_cons, List.filter_append, List.filter_map] at h1
      have h2 := (nodup_map_pair h0 _).1 (List.nodup_append.1 h1).1
      exact absurd (by simpa [Function.comp_def] using h2) hdup
    · exact hs
  · exact fsListening_pidFile c e fs0

example : ¬ ((tcpPorts { exMulti with ports := [8001, 8001] }).filter (· ≠ 0)).Nodup := by decide

/-- regression witness for 81e2038 on the generated constant: `--unix-socket-path P --ports 8899 0`
with the default (unused) `--port 8899`: the bound port 8899 is reported. -/
theorem C19_unix_unused_port_reported :
    setup { unix := true, hostname := 1, hostnames := [], port := Px.Gen.defaultPort,
            ports := [Px.Gen.defaultPort, 0], portFile := true, pidFile := false }
        (exEnv [1]) ⟨none, none, false⟩ = .started
      { pool := [.unix, .tcp 1 Px.Gen.defaultPort, .tcp 1 40002], flagsPort := Px.Gen.defaultPort,
        flagsPorts := [Px.Gen.defaultPort, 40002],
        fs := ⟨some [Px.Gen.defaultPort, 40002], none, true⟩ } := by
  decide

/-- the restriction of the quantifier is needed: with `--port 0 --ports 0` on two
addresses the kernel assigns a port per address and only those of the first
address are reported (40002, 40003 are bound but not reported). -/
theorem C19_quantifier_needed :
    setup { exZero with hostnames := [2], ports := [0] } (exEnv [1, 2]) ⟨none, none, false⟩ = .started
      { pool := [.tcp 1 40000, .tcp 1 40001, .tcp 2 40002, .tcp 2 40003], flagsPort := 40000,
        flagsPorts := [40001], fs := ⟨some [40000, 40001], some 4242, false⟩ } ∧
    ¬ InQuantifier { exZero with hostnames := [2], ports := [0] } := by
  decide

/-- **C19 SO_REUSEADDR before bind.**  In the calls `TcpSocketListener.listen`
(and `UnixSocketListener.listen`) makes on its socket, `setsockopt(SO_REUSEADDR)`
comes before the one `bind`, and `listen` after it. -/
theorem C19_reuseaddr_before_bind (v6 : Bool) (port backlog : Nat) :
    (∃ pre mid post, tcpListenOps v6 port backlog = pre ++ .setReuseAddr :: mid ++ .bind port :: post ∧
      (∀ q, SockOp.bind q ∉ pre ++ mid ++ post) ∧ SockOp.listen backlog ∈ post) ∧
    (∃ pre mid post, unixListenOps backlog = pre ++ .setReuseAddr :: mid ++ .bindPath :: post ∧
      SockOp.bindPath ∉ pre ++ mid ++ post ∧ SockOp.listen backlog ∈ post) :=
  ⟨⟨[.socket (if v6 then .inet6 else .inet)], [.setNoDelay],
      [.listen backlog, .setNonBlocking, .getsockname], rfl, by simp, by simp⟩,
   ⟨[.socket .unix], [], [.listen backlog, .setNonBlocking], rfl, by simp, by simp⟩⟩

/-- **C19 restart binds.**  Whatever an earlier instance left lingering on the
address (connections it closed itself, in FIN_WAIT / TIME_WAIT), the calls of
a listener end with a bound, listening socket — for fixed ports as well as for
port 0.  This is what lets `bindAll` (hence `C19_report`, `C19_starts`) treat a
start after a shutdown like a first start. -/
theorem C19_restart_binds (lingering v6 : Bool) (port backlog : Nat) :
    runOps lingering ⟨false, false, false⟩ (tcpListenOps v6 port backlog) = .ok ⟨true, true, true⟩ ∧
    runOps lingering ⟨false, false, false⟩ (unixListenOps backlog) = .ok ⟨true, true, true⟩ := by
  simp [tcpListenOps, unixListenOps, runOps]

/-- the order matters: the same calls with `bind` moved in front of the `setsockopt`s do not come
up on a fixed port when something lingers (and do when nothing does, or for port 0) -/
example :
    runOps true ⟨false, false, false⟩
      [.socket .inet, .bind 8899, .getsockname, .setReuseAddr, .setNoDelay, .listen 100, .setNonBlocking]
      = .error .addrInUse ∧
    runOps false ⟨false, false, false⟩
      [.socket .inet, .bind 8899, .getsockname, .setReuseAddr, .setNoDelay, .listen 100, .setNonBlocking]
      = .ok ⟨true, true, true⟩ ∧
    runOps true ⟨false, false, false⟩
      [.socket .inet, .bind 0, .getsockname, .setReuseAddr, .setNoDelay, .listen 100, .setNonBlocking]
      = .ok ⟨true, true, true⟩ := ⟨rfl, rfl, rfl⟩

end Px.Listen

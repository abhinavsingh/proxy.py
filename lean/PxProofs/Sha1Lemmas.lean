import PxModel.Sha1
/-!
The SHA-1 message schedule as the kernel can afford it.  `schedule` grows an
`Array` by `push` inside a loop; evaluated lazily, every read `w[i-3]!` walks the
whole chain of pushes again, which is nearly all the cost of checking a test
vector.  `ext` builds the same 80 words as a list, newest first, so that the four
reads are at fixed places; `schedule_eq_scheduleL` swaps it in for full blocks.
-/
namespace Px.Sha1

def ext : Nat → List UInt32 → List UInt32
  | 0, r => r
  | n + 1, r => ext n (rotl (r[2]! ^^^ r[7]! ^^^ r[13]! ^^^ r[15]!) 1 :: r)

theorem schedule_foldl (w16 : List UInt32) :
    schedule w16 = (List.range' 16 64).foldl
      (fun w i => w.push (rotl (w[i-3]! ^^^ w[i-8]! ^^^ w[i-14]! ^^^ w[i-16]!) 1)) w16.toArray := by
  simp only [schedule, Std.Legacy.Range.forIn_eq_forIn_range', Std.Legacy.Range.size,
    List.forIn_pure_yield_eq_foldl]
  rfl

theorem getElem!_reverse_toArray (r : List UInt32) (m : Nat) (h : m < r.length) :
    r.reverse.toArray[r.length - (m + 1)]! = r[m]! := by
  have h' : r.length - (m + 1) < r.reverse.length := by rw [List.length_reverse]; omega
  rw [getElem!_pos r m h, getElem!_pos r.reverse.toArray _ (by simpa using h'), List.getElem_toArray,
    List.getElem_reverse]
  congr 1; omega

theorem foldl_push_ext (k : Nat) (r : List UInt32) (hr : 16 ≤ r.length) :
    (List.range' r.length k).foldl
        (fun w i => w.push (rotl (w[i-3]! ^^^ w[i-8]! ^^^ w[i-14]! ^^^ w[i-16]!) 1)) r.reverse.toArray =
      (ext k r).reverse.toArray := by
  induction k generalizing r with
  | zero => rfl
  | succ k ih =>
    -- at step `i = r.length` the word at `i - (m + 1)` is `r[m]`
    rw [List.range'_succ, List.foldl_cons, ext, ← ih (_ :: r) (Nat.le_succ_of_le hr), List.length_cons,
      getElem!_reverse_toArray r 2 (by omega), getElem!_reverse_toArray r 7 (by omega),
      getElem!_reverse_toArray r 13 (by omega), getElem!_reverse_toArray r 15 (by omega),
      List.reverse_cons, List.push_toArray]

theorem schedule_eq (block : List UInt32) (h : block.length = 16) :
    schedule block = (ext 64 block.reverse).reverse.toArray := by
  rw [schedule_foldl, ← foldl_push_ext 64 block.reverse (by simp [h]), List.reverse_reverse,
    List.length_reverse, h]

/-- `schedule`, computed through `ext` on a full block (the only kind `sha1` produces) -/
def scheduleL (block : List UInt32) : Array UInt32 :=
  if block.length = 16 then (ext 64 block.reverse).reverse.toArray else schedule block

theorem schedule_eq_scheduleL : schedule = scheduleL := by
  funext block
  unfold scheduleL
  split
  · next h => exact schedule_eq block h
  · rfl

end Px.Sha1

import PxModel.Parser

/-!
# The HTTP parser (`PxModel/Parser.lean`) in the form the proofs use

The start-line and header phases as "find a line, then process it" (`lineStep`, `hdrStep`), a loop round as sub-automaton
followed by the completion checks (`core`, `post`), `parse` as a `loop` over `buffer ++ input`
(`parse_eq`).  None of them reads the byte counter `totalSize` or the `buffer` (`*_setTB`).
-/
namespace Px.Parser

theorem map_eq_ok {ε α β : Type} {f : α → β} {x : Except ε α} {b : β} (h : x.map f = .ok b) :
    ∃ a, x = .ok a ∧ b = f a := by
  cases x with
  | error e => exact nomatch h
  | ok a => exact ⟨a, rfl, (Except.ok.inj h).symm⟩

/-- the part of `_process_line` after a complete line was found -/
def lineStep (cfg : Cfg) (p : Parser) (line : Bytes) : Except Err Parser :=
  match p.ty with
  | .request =>
    match splitN1 SP 2 line with
    | [m, u, v] =>
      if m.isEmpty then .error .httpProtocol else
      match Px.Url.fromBytes cfg.allowedSchemes u with
      | .error e => .error (urlErr e)
      | .ok url =>
        .ok { setLineAttributes cfg
                { p with method := some m, isTunnel := p.isTunnel || m == cfg.connectMethod } url with
              version := some v, state := .lineRcvd }
    | _ => .error .httpProtocol
  | .response =>
    match splitN1 SP 2 line with
    | [v, c] => .ok { p with version := some v, code := some c, state := .lineRcvd }
    | [v, c, r] => .ok { p with version := some v, code := some c, reason := some r, state := .lineRcvd }
    | _ => .error .indexError

theorem processLine_eq (cfg : Cfg) (p : Parser) (raw : Bytes) :
    processLine cfg p raw = match splitCRLF raw with
      | none => .ok (p, false, raw)
      | some (line, rest) => (lineStep cfg p line).map (fun q => (q, !rest.isEmpty, rest)) := by
  unfold processLine lineStep
  cases splitCRLF raw with
  | none => rfl
  | some pr =>
    obtain ⟨line, rest⟩ := pr
    dsimp only []
    generalize splitN1 SP 2 line = parts
    cases p.ty with
    | request =>
      dsimp only []
      rcases parts with _ | ⟨m, _ | ⟨u, _ | ⟨v, _ | ⟨w, tl⟩⟩⟩⟩
      · rfl
      · rfl
      · rfl
      · cases m with
        | nil => rfl
        | cons _ _ =>
          dsimp only [List.isEmpty_cons]
          cases Px.Url.fromBytes cfg.allowedSchemes u <;> rfl
      · rfl
    | response =>
      dsimp only []
      rcases parts with _ | ⟨m, _ | ⟨u, _ | ⟨v, _ | ⟨w, tl⟩⟩⟩⟩ <;> rfl

/-- the part of `_process_headers` after a complete line was found -/
def hdrStep (p : Parser) (line : Bytes) : Except Err Parser :=
  if p.state == .lineRcvd || p.state == .rcvingHeaders then
    (if (strip line).isEmpty then .ok { p with state := .headersComplete }
     else processHeader { p with state := .rcvingHeaders } line)
  else .ok p

theorem processHeaders_succ (f : Nat) (p : Parser) (raw : Bytes) :
    processHeaders (f + 1) p raw = match splitCRLF raw with
      | none => .ok (p, false, raw)
      | some (line, rest) => match hdrStep p line with
        | .error e => .error e
        | .ok q => if rest.isEmpty || q.state == .headersComplete then .ok (q, !rest.isEmpty, rest)
                   else processHeaders f q rest := by
  rw [processHeaders]; rfl

def post (r : Parser × Bool × Bytes) : Parser × Bool × Bytes :=
  if r.1.ty == .response && r.1.state == .lineRcvd && r.2.2 == CRLF then
    ({ r.1 with state := .complete }, r.2.1, [])
  else if r.1.state == .headersComplete && !(r.1.contentExpected || r.1.isChunked) &&
      (r.2.2.isEmpty || r.1.ty == .request || hasHeader r.1 (b "content-length")) then
    ({ r.1 with state := .complete }, r.2.1, r.2.2)
  else r

def core (cfg : Cfg) (p : Parser) (raw : Bytes) : Except Err (Parser × Bool × Bytes) :=
  if p.state.num ≥ PState.headersComplete.num then processBody p raw
  else if p.state == .initialized then processLine cfg p raw
  else processHeaders (raw.length + 1) p raw

theorem stepOnce_eq (cfg : Cfg) (p : Parser) (raw : Bytes) :
    stepOnce cfg p raw = (core cfg p raw).map post := by
  unfold stepOnce
  show (match core cfg p raw with | .error e => _ | .ok (p, more, raw) => _) = _
  cases core cfg p raw with
  | error e => rfl
  | ok r =>
    simp only [Except.map, post]
    split
    · rfl
    · split <;> rfl

theorem core_body {cfg : Cfg} {p : Parser} (u : Bytes) (h : p.state = .headersComplete ∨ p.state = .rcvingBody) :
    core cfg p u = processBody p u := by
  rcases h with h | h <;> simp [core, h, PState.num]

theorem core_hdr {cfg : Cfg} {p : Parser} (u : Bytes) (h : p.state = .lineRcvd ∨ p.state = .rcvingHeaders) :
    core cfg p u = processHeaders (u.length + 1) p u := by
  rcases h with h | h <;> simp [core, h, PState.num]

theorem core_line {cfg : Cfg} {p : Parser} (u : Bytes) (h : p.state = .initialized) :
    core cfg p u = processLine cfg p u := by
  simp [core, h, PState.num]

theorem post_id {q : Parser} (m : Bool) (r : Bytes) (h1 : q.state = .lineRcvd → q.ty = .response → r ≠ CRLF)
    (h2 : q.state = .headersComplete → (q.contentExpected || q.isChunked) = true) :
    post (q, m, r) = (q, m, r) := by
  unfold post
  have a : (q.ty == .response && q.state == .lineRcvd && r == CRLF) = false := by
    simp only [Bool.and_eq_false_imp, Bool.and_eq_true, beq_iff_eq, beq_eq_false_iff_ne]
    exact fun ⟨hty, hl⟩ => h1 hl hty
  by_cases hs : q.state = .headersComplete
  · simp [a, h2 hs]
  · simp [a, hs]

theorem post_complete {q : Parser} (m : Bool) (r : Bytes) (hs : q.state = .headersComplete)
    (hce : q.contentExpected = false) (hch : q.isChunked = false)
    (h : r.isEmpty = true ∨ q.ty = .request ∨ hasHeader q (b "content-length") = true) :
    post (q, m, r) = ({ q with state := .complete }, m, r) := by
  unfold post
  rcases h with h | h | h <;> simp [hs, hce, hch, h]

/-- a response whose start line is followed directly by the blank line has no headers and no body -/
theorem post_statusLine {q : Parser} (m : Bool) (hs : q.state = .lineRcvd) (hty : q.ty = .response) :
    post (q, m, CRLF) = ({ q with state := .complete }, m, []) := by
  unfold post; simp [hs, hty]

def setTotal (t : Nat) (p : Parser) : Parser := { p with totalSize := t }

def setTB (t : Nat) (bf : Option Bytes) (p : Parser) : Parser := { p with totalSize := t, buffer := bf }

theorem processHeader_setTB (t : Nat) (bf : Option Bytes) (p : Parser) (line : Bytes) :
    processHeader (setTB t bf p) line = (processHeader p line).map (setTB t bf) := by
  unfold processHeader
  split
  rename_i key value _
  dsimp only []
  by_cases h1 : (lower key == b "content-length") = true
  · rw [if_pos h1, if_pos h1]; cases pyInt 10 value <;> rfl
  · rw [if_neg h1, if_neg h1]
    by_cases h2 : (lower key == b "transfer-encoding" && lower value == b "chunked") = true
    · rw [if_pos h2, if_pos h2]; rfl
    · rw [if_neg h2, if_neg h2]; rfl

theorem processLine_setTB (cfg : Cfg) (t : Nat) (bf : Option Bytes) (p : Parser) (raw : Bytes) :
    processLine cfg (setTB t bf p) raw = (processLine cfg p raw).map (Prod.map (setTB t bf) id) := by
  unfold processLine
  split
  · rfl
  · have hty : (setTB t bf p).ty = p.ty := rfl
    rw [hty]
    split
    · split
      · split
        · rfl
        · split
          · rfl
          · simp only [setLineAttributes]
            have hti : (setTB t bf p).isTunnel = p.isTunnel := rfl
            rw [hti]
            split <;> rfl
      · rfl
    · split <;> rfl

theorem processBody_setTB (t : Nat) (bf : Option Bytes) (p : Parser) (raw : Bytes) :
    processBody (setTB t bf p) raw = (processBody p raw).map (Prod.map (setTB t bf) id) := by
  unfold processBody
  dsimp only []
  -- the tests read `isChunked`, `contentExpected`, `chunk` and the headers only
  show (if p.isChunked = true then
      (match Px.Chunk.parse (p.chunk.getD Px.Chunk.init) raw with | .error e => _ | .ok (c, rest) => _)
    else if p.contentExpected = true then
      (match header p (b "content-length") with | .error e => _ | .ok clv => _) else _) = _
  by_cases hch : p.isChunked = true
  · rw [if_pos hch, if_pos hch]
    cases Px.Chunk.parse (p.chunk.getD Px.Chunk.init) raw with
    | error e => rfl
    | ok r =>
      obtain ⟨c, rest⟩ := r
      by_cases hc : (c.state == .complete) = true
      · simp only [hc, if_true]; rfl
      · simp only [hc]; rfl
  · rw [if_neg hch, if_neg hch]
    by_cases hce : p.contentExpected = true
    · rw [if_pos hce, if_pos hce]
      cases header p (b "content-length") with
      | error e => rfl
      | ok clv => dsimp only []; cases pyInt 10 clv <;> rfl
    · rw [if_neg hce, if_neg hce]; rfl

theorem hdrStep_setTB (t : Nat) (bf : Option Bytes) (p : Parser) (line : Bytes) :
    hdrStep (setTB t bf p) line = (hdrStep p line).map (setTB t bf) := by
  unfold hdrStep
  show (if (p.state == .lineRcvd || p.state == .rcvingHeaders) = true then _ else _) = _
  by_cases hs : (p.state == .lineRcvd || p.state == .rcvingHeaders) = true
  · rw [if_pos hs, if_pos hs]
    by_cases hl : (strip line).isEmpty = true
    · rw [if_pos hl, if_pos hl]; rfl
    · rw [if_neg hl, if_neg hl]; exact processHeader_setTB t bf { p with state := .rcvingHeaders } line
  · rw [if_neg hs, if_neg hs]; rfl

theorem processHeaders_setTB (t : Nat) (bf : Option Bytes) (f : Nat) (p : Parser) (raw : Bytes) :
    processHeaders f (setTB t bf p) raw = (processHeaders f p raw).map (Prod.map (setTB t bf) id) := by
  induction f generalizing p raw with
  | zero => rfl
  | succ f ih =>
    rw [processHeaders_succ, processHeaders_succ]
    simp only [hdrStep_setTB]
    cases splitCRLF raw with
    | none => rfl
    | some lr =>
      dsimp only []
      cases hdrStep p lr.1 with
      | error e => rfl
      | ok q =>
        dsimp only [Except.map]
        show (if (lr.2.isEmpty || q.state == .headersComplete) = true then _ else _) = _
        split
        · rfl
        · exact ih q lr.2

theorem post_setTB (t : Nat) (bf : Option Bytes) (r : Parser × Bool × Bytes) :
    post (Prod.map (setTB t bf) id r) = Prod.map (setTB t bf) id (post r) := by
  unfold post
  show (if (r.1.ty == .response && r.1.state == .lineRcvd && r.2.2 == CRLF) = true then _
    else if (r.1.state == .headersComplete && !(r.1.contentExpected || r.1.isChunked) &&
      (r.2.2.isEmpty || r.1.ty == .request || hasHeader r.1 (b "content-length"))) = true then _ else _) = _
  split
  · rfl
  · split <;> rfl

theorem stepOnce_setTB (cfg : Cfg) (t : Nat) (bf : Option Bytes) (p : Parser) (raw : Bytes) :
    stepOnce cfg (setTB t bf p) raw = (stepOnce cfg p raw).map (Prod.map (setTB t bf) id) := by
  have hcore : core cfg (setTB t bf p) raw = (core cfg p raw).map (Prod.map (setTB t bf) id) := by
    unfold core
    show (if p.state.num ≥ PState.headersComplete.num then _
      else if (p.state == .initialized) = true then _ else _) = _
    split
    · exact processBody_setTB t bf p raw
    · split
      · exact processLine_setTB cfg t bf p raw
      · exact processHeaders_setTB t bf _ p raw
  rw [stepOnce_eq, stepOnce_eq, hcore]
  cases core cfg p raw with
  | error e => rfl
  | ok r => exact congrArg Except.ok (post_setTB t bf r)

theorem loop_setTB (cfg : Cfg) (t : Nat) (bf : Option Bytes) (f : Nat) (p : Parser) (more : Bool) (raw : Bytes) :
    loop cfg f (setTB t bf p) more raw = (loop cfg f p more raw).map (Prod.map (setTB t bf) id) := by
  induction f generalizing p more raw with
  | zero => rfl
  | succ f ih =>
    unfold loop
    show (if (!more || p.state == .complete) = true then _ else _) = _
    split
    · rfl
    · rw [stepOnce_setTB]
      cases stepOnce cfg p raw with
      | error e => rfl
      | ok r => exact ih r.1 r.2.1 r.2.2

/-- write back the unconsumed bytes, as the last line of `HttpParser.parse` does -/
def finish (r : Parser × Bytes) : Parser :=
  { r.1 with buffer := if r.2.isEmpty then none else some r.2 }

def bufBytes (p : Parser) : Bytes := p.buffer.getD []

theorem parse_eq (cfg : Cfg) (p : Parser) (x : Bytes) :
    parse cfg p x = (loop cfg ((bufBytes p ++ x).length + 8)
      { p with totalSize := p.totalSize + x.length, buffer := none } (decide (x.length > 0))
      (bufBytes p ++ x)).map finish := by
  -- once the buffered bytes stand in front of `x`, the two sides differ only in how they say `finish`
  have key : ∀ (raw : Bytes) (q : Parser) (m : Bool), (match loop cfg (raw.length + 8) q m raw with
      | .error e => Except.error e
      | .ok (p, raw) => .ok { p with buffer := if raw.isEmpty then none else some raw }) =
      (loop cfg (raw.length + 8) q m raw).map finish := by
    intro raw q m
    cases loop cfg (raw.length + 8) q m raw <;> rfl
  unfold parse bufBytes
  rcases p.buffer with _ | _ | _ <;> exact key _ _ _

end Px.Parser

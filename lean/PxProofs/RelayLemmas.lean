import PxModel.Relay
import PxProofs.ConnLemmas
/-! Lemmas about the relay tick (C01, C07).  A tick is the two write phases followed by the read
    half (`tick_cases`, `readHalf_cases`); every phase gets its frame and its effect once, and the
    byte accounting of a tick (`DownStep`, `UpStep`) is composed from those of its phases. -/
namespace Px.Relay
open Px Px.Conn

/-- every byte queued for the client so far: those sent, then those still in its buffer -/
def D (s : St) : Bytes := s.sentC ++ s.client.buffer.flatten
/-- the same for the upstream -/
def U (s : St) : Bytes := s.sentU ++ s.upstream.buffer.flatten

theorem afterCW_eq (s : St) (r : FlushRes) :
    afterCW s r =
      ({ s with client := r.conn, sentC := s.sentC ++ r.wire, trC := r.offered.map (·, r.accepted),
                mustFlush := s.mustFlush && (r.exc.isSome || r.conn.hasBuffer) },
       r.exc.isSome || (s.mustFlush && !r.conn.hasBuffer)) := by
  unfold afterCW
  dsimp only
  cases r.exc with
  | some e => rw [Option.isSome_some, Bool.true_or, Bool.and_true, Bool.true_or]
  | none =>
    dsimp only
    cases hm : s.mustFlush with
    | false => rfl
    | true => cases hb : r.conn.hasBuffer <;> rfl

theorem phaseCW_frame (s : St) (t : Tick) :
    ∃ cl sc tr mf, (phaseCW s t).1 = { s with client := cl, sentC := sc, trC := tr, mustFlush := mf } ∧
      D (phaseCW s t).1 = D s := by
  unfold phaseCW
  split
  · rw [afterCW_eq]
    exact ⟨_, _, _, _, rfl, by simp only [D, List.append_assoc, flush_wire_append]⟩
  · exact ⟨_, _, _, _, rfl, rfl⟩

theorem phaseCW_flush (s : St) (t : Tick) (hw : t.cW = true) (hb : s.client.hasBuffer = true) :
    (phaseCW s t).1.client = (s.client.flush s.maxSend t.cSend).conn ∧
    (phaseCW s t).1.sentC = s.sentC ++ (s.client.flush s.maxSend t.cSend).wire := by
  unfold phaseCW
  rw [hw, hb, afterCW_eq]
  exact ⟨rfl, rfl⟩

theorem phaseCW_false (s : St) (t : Tick) (h : (phaseCW s t).2 = false) :
    (s.mustFlush = true → s.client.hasBuffer = true → (phaseCW s t).1.client.hasBuffer = true) ∧
    (phaseCW s t).1.mustFlush = s.mustFlush := by
  unfold phaseCW at h ⊢
  split
  · rename_i hc
    rw [if_pos hc, afterCW_eq] at h
    rw [afterCW_eq]
    cases hm : s.mustFlush <;> simp_all
  · exact ⟨fun _ hb => hb, rfl⟩

def ClientSendFailed (s : St) (t : Tick) : Prop :=
  t.cW = true ∧ s.client.hasBuffer = true ∧
    (t.cSend = .brokenPipe ∨ t.cSend = .osError ∨ t.cSend = .sslWantWrite)

instance (s : St) (t : Tick) : Decidable (ClientSendFailed s t) := by
  unfold ClientSendFailed; infer_instance

theorem phaseCW_true (s : St) (t : Tick) (h : (phaseCW s t).2 = true) :
    ClientSendFailed s t ∨ (phaseCW s t).1.client.hasBuffer = false := by
  unfold phaseCW at h ⊢
  split
  · rename_i hc
    rw [if_pos hc, afterCW_eq] at h
    rw [afterCW_eq]
    rw [Bool.and_eq_true] at hc
    cases he : (flush s.maxSend s.client t.cSend).exc with
    | some e => exact .inl ⟨hc.1, hc.2, ((flush_exc_iff _ _ _).mp (he ▸ Option.some_ne_none e)).2⟩
    | none => right; simp_all
  · rename_i hc; rw [if_neg hc] at h; exact nomatch h

theorem afterUW_eq (s : St) (r : FlushRes) :
    afterUW s r =
      ({ s with upstream := r.conn, sentU := s.sentU ++ r.wire, trU := r.offered.map (·, r.accepted) },
       r.exc.isSome && r.exc != some .sslWantWrite) := by
  unfold afterUW
  rcases r.exc with _ | _ | _ | _ <;> rfl

theorem phaseUW_frame (s : St) (t : Tick) :
    ∃ up su tr, (phaseUW s t).1 = { s with upstream := up, sentU := su, trU := tr } ∧
      up.closed = s.upstream.closed ∧ U (phaseUW s t).1 = U s := by
  unfold phaseUW
  split
  · rw [afterUW_eq]
    exact ⟨_, _, _, rfl, flush_closed _ _ _, by simp only [U, List.append_assoc, flush_wire_append]⟩
  · exact ⟨_, _, _, rfl, rfl, rfl⟩

theorem afterHD_state (s : St) (hd : HD) : ∃ mf, (afterHD s hd).1 = { s with mustFlush := mf } := by
  unfold afterHD
  rcases hd with ⟨_ | _⟩ | _
  · exact ⟨_, rfl⟩
  · dsimp only; split <;> exact ⟨_, rfl⟩
  · exact ⟨_, rfl⟩

theorem afterHD_raised (s : St) (hd : HD) (h : (afterHD s hd).2 = .raised) : hd = .raised := by
  unfold afterHD at h
  rcases hd with ⟨_ | _⟩ | _
  · exact nomatch h
  · dsimp only at h; split at h <;> exact nomatch h
  · rfl

theorem onClientData_fst (s : St) (b : Bytes) (a : AppOut) :
    (onClientData s b a).1 = s ∨
    (∃ x, s.kind ≠ .local ∧ (onClientData s b a).1 = { s with upstream := s.upstream.queue x }) ∨
    (∃ x, s.kind = .local ∧
      (onClientData s b a).1 = { s with client := s.client.queue x, queuedC := s.queuedC ++ [x] }) := by
  unfold onClientData
  cases hk : s.kind with
  | tunnel =>
    cases hc : s.upstream.closed with
    | true => exact .inl rfl
    | false => exact .inr (.inl ⟨b, nofun, rfl⟩)
  | http =>
    cases hc : s.upstream.closed with
    | true => exact .inl rfl
    | false =>
      rcases a with ⟨_ | x, _, _⟩ | _
      · exact .inl rfl
      · exact .inr (.inl ⟨x, nofun, rfl⟩)
      · exact .inl rfl
  | «local» =>
    rcases a with ⟨_, _ | x, _⟩ | _
    · exact .inl rfl
    · exact .inr (.inr ⟨x, rfl, rfl⟩)
    · exact .inl rfl

theorem onClientData_raised (s : St) (b : Bytes) (a : AppOut) (h : (onClientData s b a).2 = .raised) :
    s.kind ≠ .tunnel ∧ a = .raised := by
  unfold onClientData at h
  split at h
  · split at h <;> exact nomatch h
  · split at h
    · exact nomatch h
    · split at h
      · rename_i hk _ _; exact ⟨by rw [hk]; nofun, rfl⟩
      · exact nomatch h
  · split at h
    · rename_i hk _; exact ⟨by rw [hk]; nofun, rfl⟩
    · exact nomatch h

theorem phaseCR_cases (s : St) (t : Tick) :
    ((phaseCR s t).1 = s ∧ (phaseCR s t).2 ≠ .raised) ∨
    ∃ b, t.cR = true ∧
      phaseCR s t = afterHD (onClientData { s with recvC := s.recvC ++ b } b t.app).1
        (onClientData { s with recvC := s.recvC ++ b } b t.app).2 := by
  generalize hr : phaseCR s t = r
  unfold phaseCR at hr
  split at hr
  · rename_i h
    split at hr <;> subst hr
    · exact .inl ⟨rfl, nofun⟩
    · exact .inl ⟨rfl, nofun⟩
    · exact .inl ⟨rfl, nofun⟩
    · exact .inr ⟨_, h, rfl⟩
  · subst hr; exact .inl ⟨rfl, nofun⟩

theorem phaseCR_idle (s : St) (t : Tick) (h : t.cR = false) : phaseCR s t = (s, .no) := by
  unfold phaseCR; rw [h]; rfl

theorem phaseCR_raised (s : St) (t : Tick) (h : (phaseCR s t).2 = .raised) :
    s.kind ≠ .tunnel ∧ t.app = .raised ∧ t.cR = true := by
  rcases phaseCR_cases s t with ⟨_, hn⟩ | ⟨b, hc, e⟩
  · exact absurd h hn
  · rw [e] at h
    obtain ⟨h1, h2⟩ := onClientData_raised _ _ _ (afterHD_raised _ _ h)
    exact ⟨h1, h2, hc⟩

theorem phaseCR_frame (s : St) (t : Tick) :
    ∃ rc mf,
      (∃ up, up.closed = s.upstream.closed ∧
        (phaseCR s t).1 = { s with recvC := rc, upstream := up, mustFlush := mf }) ∨
      (∃ x, s.kind = .local ∧
        (phaseCR s t).1 =
          { s with recvC := rc, client := s.client.queue x, queuedC := s.queuedC ++ [x], mustFlush := mf }) := by
  rcases phaseCR_cases s t with ⟨h, _⟩ | ⟨b, _, h⟩
  · exact ⟨_, _, .inl ⟨_, rfl, h⟩⟩
  · obtain ⟨mf, e'⟩ := afterHD_state (onClientData { s with recvC := s.recvC ++ b } b t.app).1
      (onClientData { s with recvC := s.recvC ++ b } b t.app).2
    rw [h, e']
    rcases onClientData_fst { s with recvC := s.recvC ++ b } b t.app with e | ⟨x, _, e⟩ | ⟨x, hl, e⟩ <;> rw [e]
    · exact ⟨_, mf, .inl ⟨_, by rfl, rfl⟩⟩
    · exact ⟨_, mf, .inl ⟨_, by rfl, rfl⟩⟩
    · exact ⟨_, mf, .inr ⟨x, hl, rfl⟩⟩

theorem phaseUR_cases (s : St) (t : Tick) :
    (∃ r, phaseUR s t = (s, r)) ∨
    ∃ d, d ≠ [] ∧ t.uRecv = .data d ∧
      phaseUR s t = ({ s with recvU := s.recvU ++ d, client := s.client.queue d, queuedC := s.queuedC ++ [d] }, false) := by
  unfold phaseUR
  split
  · split
    · exact .inl ⟨_, rfl⟩
    · exact .inl ⟨_, rfl⟩
    · exact .inl ⟨_, rfl⟩
    · rename_i b hb
      obtain ⟨h1, h2⟩ := recv_seg _ _ hb
      exact .inr ⟨b, h2, h1, rfl⟩
  · exact .inl ⟨_, rfl⟩

theorem phaseUR_local (s : St) (t : Tick) (hk : s.kind = .local) : phaseUR s t = (s, false) := by
  unfold phaseUR upLive; rw [hk]; rfl

theorem phaseUR_client (s : St) (t : Tick) :
    ∃ extra, (phaseUR s t).1.client.buffer = s.client.buffer ++ extra := by
  rcases phaseUR_cases s t with ⟨r, h⟩ | ⟨d, _, _, h⟩ <;> rw [h]
  · exact ⟨[], (List.append_nil _).symm⟩
  · exact ⟨[d], rfl⟩

/-- `seg`: what the tick read from the upstream (possibly nothing) -/
structure DownStep (s s' : St) (seg : Bytes) (t : Tick) : Prop where
  kind : s'.kind = s.kind
  maxSend : s'.maxSend = s.maxSend
  closed : s'.upstream.closed = s.upstream.closed
  recvU : s'.recvU = s.recvU ++ seg
  d : D s' = D s ++ seg
  qf : s'.queuedC.flatten = s.queuedC.flatten ++ seg
  q : s'.queuedC = s.queuedC ∨ (t.uRecv = .data seg ∧ seg ≠ [] ∧ s'.queuedC = s.queuedC ++ [seg])

structure UpStep (s s' : St) (seg : Bytes) : Prop where
  kind : s'.kind = s.kind
  closed : s'.upstream.closed = s.upstream.closed
  recvC : s'.recvC = s.recvC ++ seg
  u : U s' = U s ++ seg

theorem DownStep.nil {s s' : St} (t : Tick) (hk : s'.kind = s.kind) (hm : s'.maxSend = s.maxSend)
    (hc : s'.upstream.closed = s.upstream.closed) (hr : s'.recvU = s.recvU) (hd : D s' = D s)
    (hq : s'.queuedC = s.queuedC) : DownStep s s' [] t :=
  ⟨hk, hm, hc, hr.trans (List.append_nil _).symm, hd.trans (List.append_nil _).symm,
    (congrArg _ hq).trans (List.append_nil _).symm, .inl hq⟩

theorem DownStep.refl (s : St) (t : Tick) : DownStep s s [] t := .nil t rfl rfl rfl rfl rfl rfl

theorem DownStep.trans {s s1 s2 : St} {seg : Bytes} {t : Tick} (h1 : DownStep s s1 [] t)
    (h2 : DownStep s1 s2 seg t) : DownStep s s2 seg t where
  kind := h2.kind.trans h1.kind
  maxSend := h2.maxSend.trans h1.maxSend
  closed := h2.closed.trans h1.closed
  recvU := by rw [h2.recvU, h1.recvU, List.append_nil]
  d := by rw [h2.d, h1.d, List.append_nil]
  qf := by rw [h2.qf, h1.qf, List.append_nil]
  q := by
    have : s1.queuedC = s.queuedC := by
      rcases h1.q with h | ⟨_, h, _⟩
      · exact h
      · exact absurd rfl h
    rw [← this]; exact h2.q

theorem DownStep.flags {s s' : St} {seg : Bytes} {t : Tick} (h : DownStep s s' seg t) (w r : Bool) :
    DownStep s { s' with writesTeared := w, readsTeared := r } seg t :=
  ⟨h.kind, h.maxSend, h.closed, h.recvU, h.d, h.qf, h.q⟩

theorem UpStep.nil {s s' : St} (hk : s'.kind = s.kind) (hc : s'.upstream.closed = s.upstream.closed)
    (hr : s'.recvC = s.recvC) (hu : U s' = U s) : UpStep s s' [] :=
  ⟨hk, hc, hr.trans (List.append_nil _).symm, hu.trans (List.append_nil _).symm⟩

theorem UpStep.refl (s : St) : UpStep s s [] := .nil rfl rfl rfl rfl

theorem UpStep.trans {s s1 s2 : St} {a b : Bytes} (h1 : UpStep s s1 a) (h2 : UpStep s1 s2 b) :
    UpStep s s2 (a ++ b) :=
  ⟨h2.kind.trans h1.kind, h2.closed.trans h1.closed, by rw [h2.recvC, h1.recvC, List.append_assoc],
    by rw [h2.u, h1.u, List.append_assoc]⟩

theorem UpStep.flags {s s' : St} {seg : Bytes} (h : UpStep s s' seg) (w r : Bool) :
    UpStep s { s' with writesTeared := w, readsTeared := r } seg :=
  ⟨h.kind, h.closed, h.recvC, h.u⟩

theorem phaseCR_up (s : St) (t : Tick) (hk : s.kind = .tunnel) (hc : s.upstream.closed = false) :
    ∃ seg, UpStep s (phaseCR s t).1 seg := by
  rcases phaseCR_cases s t with ⟨h, _⟩ | ⟨b, _, h⟩ <;> rw [h]
  · exact ⟨[], .refl s⟩
  · have : onClientData { s with recvC := s.recvC ++ b } b t.app =
        ({ s with recvC := s.recvC ++ b, upstream := s.upstream.queue b }, .ret false) := by
      unfold onClientData; rw [hk]; dsimp only; rw [hc]; rfl
    rw [this]
    exact ⟨b, rfl, rfl, rfl, by simp only [U, afterHD, queue_flatten, List.append_assoc]⟩

theorem phaseCR_down (s : St) (t : Tick) (hk : s.kind ≠ .local) : DownStep s (phaseCR s t).1 [] t := by
  obtain ⟨rc, mf, ⟨up, hc, h⟩ | ⟨x, hl, _⟩⟩ := phaseCR_frame s t
  · rw [h]; exact .nil t rfl rfl hc rfl rfl rfl
  · exact absurd hl hk

theorem phaseUR_down (s : St) (t : Tick) : ∃ seg, DownStep s (phaseUR s t).1 seg t := by
  rcases phaseUR_cases s t with ⟨r, h⟩ | ⟨d, h1, h2, h⟩ <;> rw [h]
  · exact ⟨[], .refl s t⟩
  · refine ⟨d, rfl, rfl, rfl, rfl, ?_, ?_, .inr ⟨h2, h1, rfl⟩⟩
    · simp only [D, queue_flatten, List.append_assoc]
    · simp only [List.flatten_append, List.flatten_cons, List.flatten_nil, List.append_nil]

theorem phaseUR_up (s : St) (t : Tick) : UpStep s (phaseUR s t).1 [] := by
  rcases phaseUR_cases s t with ⟨r, h⟩ | ⟨d, _, _, h⟩ <;> rw [h]
  · exact .refl s
  · exact .nil rfl rfl rfl rfl

theorem finish_fst (s : St) : (finish s).1 = s := rfl

theorem finish_snd_ne_raised (s : St) : (finish s).2 ≠ .raised := by
  unfold finish; split <;> nofun

theorem finish_teardown (s : St) (h : (finish s).2 = .teardown) : s.client.hasBuffer = false := by
  unfold finish at h
  split at h
  · rename_i hc; simp at hc; exact hc.2
  · exact nomatch h

theorem finish_cont (s : St) (h : (finish s).2 = .cont) : ¬ (s.readsTeared = true ∧ s.client.hasBuffer = false) := by
  unfold finish at h
  split at h
  · exact nomatch h
  · rename_i hc; simpa using hc

theorem readHalf_cases (s : St) (t : Tick) :
    (s.readsTeared = true ∧ readHalf s t = finish s) ∨
    (s.readsTeared = false ∧
      (((phaseCR s t).2 = .raised ∧ readHalf s t = ((phaseCR s t).1, .raised)) ∨
       ((phaseCR s t).2 = .yes ∧ readHalf s t = finish { (phaseCR s t).1 with readsTeared := true }) ∨
       ((phaseCR s t).2 = .no ∧ readHalf s t =
          finish { (phaseUR (phaseCR s t).1 t).1 with readsTeared := (phaseUR (phaseCR s t).1 t).2 }))) := by
  unfold readHalf
  cases s.readsTeared with
  | true => exact .inl ⟨rfl, rfl⟩
  | false =>
    rcases phaseCR s t with ⟨s1, _ | _ | _⟩
    · exact .inr ⟨rfl, .inr (.inr ⟨rfl, rfl⟩)⟩
    · exact .inr ⟨rfl, .inr (.inl ⟨rfl, rfl⟩)⟩
    · exact .inr ⟨rfl, .inl ⟨rfl, rfl⟩⟩

/-- what both read phases and the assignment to `reads_teared` keep, the read half keeps -/
theorem readHalf_inv {P : St → Prop} (s : St) (t : Tick) (h : P s) (hcr : P (phaseCR s t).1)
    (hur : P (phaseCR s t).1 → P (phaseUR (phaseCR s t).1 t).1)
    (hrt : ∀ s' r, P s' → P { s' with readsTeared := r }) : P (readHalf s t).1 := by
  rcases readHalf_cases s t with ⟨_, e⟩ | ⟨_, ⟨_, e⟩ | ⟨_, e⟩ | ⟨_, e⟩⟩ <;> rw [e]
  · exact h
  · exact hcr
  · exact hrt _ _ hcr
  · exact hrt _ _ (hur hcr)

theorem readHalf_down (s : St) (t : Tick) (hk : s.kind ≠ .local) :
    ∃ seg, DownStep s (readHalf s t).1 seg t := by
  have hc := phaseCR_down s t hk
  refine readHalf_inv (P := fun s' => ∃ seg, DownStep s s' seg t) s t ⟨[], .refl s t⟩ ⟨[], hc⟩ (fun _ => ?_)
    (fun _ _ ⟨seg, h⟩ => ⟨seg, h.flags _ _⟩)
  obtain ⟨seg, hu⟩ := phaseUR_down (phaseCR s t).1 t
  exact ⟨seg, hc.trans hu⟩

theorem readHalf_up (s : St) (t : Tick) (hk : s.kind = .tunnel) (hc : s.upstream.closed = false) :
    ∃ seg, UpStep s (readHalf s t).1 seg := by
  obtain ⟨seg, hu⟩ := phaseCR_up s t hk hc
  exact readHalf_inv (P := fun s' => ∃ seg, UpStep s s' seg) s t ⟨[], .refl s⟩ ⟨seg, hu⟩
    (fun _ => ⟨seg ++ [], hu.trans (phaseUR_up _ t)⟩) (fun _ _ ⟨seg, h⟩ => ⟨seg, h.flags _ _⟩)

/-- the read half ends in the exception of the client read phase, or in the last line of `handle_events` -/
theorem readHalf_ret (s : St) (t : Tick) :
    ((phaseCR s t).2 = .raised ∧ (readHalf s t).2 = .raised) ∨ ∃ s', readHalf s t = finish s' := by
  rcases readHalf_cases s t with ⟨_, e⟩ | ⟨_, ⟨hr, e⟩ | ⟨_, e⟩ | ⟨_, e⟩⟩
  · exact .inr ⟨_, e⟩
  · exact .inl ⟨hr, by rw [e]⟩
  · exact .inr ⟨_, e⟩
  · exact .inr ⟨_, e⟩

theorem readHalf_teardown (s : St) (t : Tick) (h : (readHalf s t).2 = .teardown) :
    (readHalf s t).1.client.hasBuffer = false := by
  rcases readHalf_ret s t with ⟨_, e⟩ | ⟨s', e⟩
  · rw [e] at h; exact nomatch h
  · rw [e] at h ⊢; exact finish_teardown _ h

theorem readHalf_raised (s : St) (t : Tick) (h : (readHalf s t).2 = .raised) :
    s.kind ≠ .tunnel ∧ t.app = .raised ∧ t.cR = true := by
  rcases readHalf_ret s t with ⟨hr, _⟩ | ⟨s', e⟩
  · exact phaseCR_raised s t hr
  · rw [e] at h; exact absurd h (finish_snd_ne_raised _)

theorem readHalf_client (s : St) (t : Tick) :
    ∃ extra, (readHalf s t).1.client.buffer = s.client.buffer ++ extra := by
  refine readHalf_inv (P := fun s' => ∃ extra, s'.client.buffer = s.client.buffer ++ extra) s t
    ⟨[], (List.append_nil _).symm⟩ ?_ (fun ⟨e1, h1⟩ => ?_) (fun _ _ h => h)
  · obtain ⟨rc, mf, ⟨up, _, h⟩ | ⟨x, _, h⟩⟩ := phaseCR_frame s t <;> rw [h]
    · exact ⟨[], (List.append_nil _).symm⟩
    · exact ⟨[x], rfl⟩
  · obtain ⟨e2, h2⟩ := phaseUR_client (phaseCR s t).1 t
    exact ⟨e1 ++ e2, by rw [← List.append_assoc, ← h1]; exact h2⟩

theorem readHalf_sentC (s : St) (t : Tick) : (readHalf s t).1.sentC = s.sentC := by
  refine readHalf_inv (P := fun s' => s'.sentC = s.sentC) s t rfl ?_ (fun hc => ?_) (fun _ _ h => h)
  · obtain ⟨rc, mf, ⟨up, _, h⟩ | ⟨x, _, h⟩⟩ := phaseCR_frame s t <;> rw [h]
  · rcases phaseUR_cases (phaseCR s t).1 t with ⟨r, hu⟩ | ⟨d, _, _, hu⟩ <;> rw [hu] <;> exact hc

theorem readHalf_noEmpty (s : St) (t : Tick) (hk : s.kind ≠ .local) (hn : NoEmpty s.client) :
    NoEmpty (readHalf s t).1.client := by
  refine readHalf_inv (P := fun s' => NoEmpty s'.client) s t hn ?_ (fun hc => ?_) (fun _ _ h => h)
  · obtain ⟨rc, mf, ⟨up, _, h⟩ | ⟨x, hl, _⟩⟩ := phaseCR_frame s t
    · rw [h]; exact hn
    · exact absurd hl hk
  · rcases phaseUR_cases (phaseCR s t).1 t with ⟨r, hu⟩ | ⟨d, hd, _, hu⟩ <;> rw [hu]
    · exact hc
    · exact queue_noEmpty _ _ hc hd

theorem readHalf_cR_off (s : St) (t : Tick) (h : t.cR = false) :
    (readHalf s t).1.recvC = s.recvC ∧ (readHalf s t).1.mustFlush = s.mustFlush := by
  refine readHalf_inv (P := fun s' => s'.recvC = s.recvC ∧ s'.mustFlush = s.mustFlush) s t ⟨rfl, rfl⟩ ?_ ?_
    (fun _ _ h => h) <;> rw [phaseCR_idle s t h]
  · exact ⟨rfl, rfl⟩
  · rcases phaseUR_cases s t with ⟨r, hu⟩ | ⟨d, _, _, hu⟩ <;> rw [hu] <;> exact id

theorem readHalf_quiet (s : St) (t : Tick) (hc : t.cR = false) (hk : s.kind = .local) :
    ∃ b, readHalf s t = finish { s with readsTeared := b } := by
  rcases readHalf_cases s t with ⟨_, e⟩ | ⟨_, ⟨hr, _⟩ | ⟨hr, _⟩ | ⟨_, e⟩⟩
  · exact ⟨s.readsTeared, e⟩
  · rw [phaseCR_idle s t hc] at hr; exact nomatch hr
  · rw [phaseCR_idle s t hc] at hr; exact nomatch hr
  · rw [phaseCR_idle s t hc, phaseUR_local s t hk] at e; exact ⟨false, e⟩

/-- in a tick from `s` the client flush leaves `s1` without ending the tick, and the read half
    starts from `s2` -/
structure WriteHalf (s s1 s2 : St) (t : Tick) : Prop where
  cw : phaseCW { s with trC := none, trU := none } t = (s1, false)
  down : DownStep s s2 [] t
  up : UpStep s s2 []
  client : s2.client = s1.client
  sentC : s2.sentC = s1.sentC
  mustFlush : s2.mustFlush = s.mustFlush
  pending : s.mustFlush = true → s.client.hasBuffer = true → s1.client.hasBuffer = true
  readsTeared : s.readsTeared = true → s2.readsTeared = true

theorem tick_cases (s : St) (t : Tick) :
    (∃ s1, phaseCW { s with trC := none, trU := none } t = (s1, true) ∧ DownStep s s1 [] t ∧ UpStep s s1 [] ∧
      tick s t = ({ s1 with writesTeared := true }, .teardown)) ∨
    (∃ s1 s2, WriteHalf s s1 s2 t ∧ tick s t = readHalf s2 t) := by
  obtain ⟨cl, sc, tr, mf, e1, d1⟩ := phaseCW_frame { s with trC := none, trU := none } t
  have hd1 : DownStep s (phaseCW { s with trC := none, trU := none } t).1 [] t := by
    rw [e1] at d1 ⊢; exact .nil t rfl rfl rfl rfl d1 rfl
  have hu1 : UpStep s (phaseCW { s with trC := none, trU := none } t).1 [] := by
    rw [e1]; exact .nil rfl rfl rfl rfl
  have rt1 : (phaseCW { s with trC := none, trU := none } t).1.readsTeared = s.readsTeared := by rw [e1]
  have pf := phaseCW_false { s with trC := none, trU := none } t
  unfold tick
  dsimp only
  rcases hcw : phaseCW { s with trC := none, trU := none } t with ⟨s1, _ | _⟩ <;>
    rw [hcw] at hd1 hu1 rt1 pf <;> dsimp only
  · right
    obtain ⟨up, su, tr2, e2, cl2, u2⟩ := phaseUW_frame { s1 with writesTeared := false } t
    have hd2 : DownStep s1 (phaseUW { s1 with writesTeared := false } t).1 [] t := by
      rw [e2]; exact .nil t rfl rfl cl2 rfl rfl rfl
    have hu2 : UpStep s1 (phaseUW { s1 with writesTeared := false } t).1 [] := by
      rw [e2] at u2 ⊢; exact .nil rfl cl2 rfl u2
    generalize phaseUW { s1 with writesTeared := false } t = x at hd2 hu2 e2 ⊢
    obtain ⟨s2, w⟩ := x
    obtain rfl : s2 = _ := e2
    refine ⟨s1, _, ⟨hcw, (hd1.trans hd2).flags _ _, (hu1.trans hu2).flags _ _, rfl, rfl, (pf rfl).2, (pf rfl).1,
      fun h => ?_⟩, rfl⟩
    show (s1.readsTeared || w) = true
    rw [rt1.trans h]; rfl
  · left; exact ⟨s1, rfl, hd1, hu1, rfl⟩

theorem tick_down (s : St) (t : Tick) (hk : s.kind ≠ .local) :
    ∃ seg, DownStep s (tick s t).1 seg t := by
  rcases tick_cases s t with ⟨s1, _, hd, _, h⟩ | ⟨s1, s2, hw, h⟩ <;> rw [h]
  · exact ⟨[], hd.flags true _⟩
  · obtain ⟨seg, h⟩ := readHalf_down s2 t (by rw [hw.down.kind]; exact hk)
    exact ⟨seg, hw.down.trans h⟩

theorem mask_uRecv (i : Interest) (t : Tick) : (mask i t).uRecv = t.uRecv := rfl
theorem mask_cRecv (i : Interest) (t : Tick) : (mask i t).cRecv = t.cRecv := rfl

theorem step_down (s : St) (t : Tick) (hk : s.kind ≠ .local) :
    ∃ seg, DownStep s (step s t).1 seg t := by
  obtain ⟨seg, h⟩ := tick_down s (mask (events s) t) hk
  -- the same facts, about `t` instead of the masked tick (which has the same `uRecv`)
  exact ⟨seg, ⟨h.kind, h.maxSend, h.closed, h.recvU, h.d, h.qf, h.q⟩⟩

theorem step_down_inv (inj : Bytes) (s : St) (t : Tick) (h : s.kind ≠ .local ∧ D s = inj ++ s.recvU) :
    (step s t).1.kind ≠ .local ∧ D (step s t).1 = inj ++ (step s t).1.recvU := by
  obtain ⟨seg, d⟩ := step_down s t h.1
  exact ⟨d.kind ▸ h.1, by rw [d.d, d.recvU, h.2, List.append_assoc]⟩

theorem tick_up (s : St) (t : Tick) (hk : s.kind = .tunnel) (hc : s.upstream.closed = false) :
    ∃ seg, UpStep s (tick s t).1 seg := by
  rcases tick_cases s t with ⟨s1, _, _, hu, h⟩ | ⟨s1, s2, hw, h⟩ <;> rw [h]
  · exact ⟨[], hu.flags true _⟩
  · obtain ⟨seg, h⟩ := readHalf_up s2 t (by rw [hw.up.kind]; exact hk) (by rw [hw.up.closed]; exact hc)
    exact ⟨[] ++ seg, hw.up.trans h⟩

theorem tick_raised (s : St) (t : Tick) (h : (tick s t).2 = .raised) :
    s.kind ≠ .tunnel ∧ t.app = .raised ∧ t.cR = true := by
  rcases tick_cases s t with ⟨s1, _, _, _, e⟩ | ⟨s1, s2, hw, e⟩ <;> rw [e] at h
  · exact nomatch h
  · obtain ⟨r1, r2⟩ := readHalf_raised s2 t h
    exact ⟨by rw [← hw.down.kind]; exact r1, r2⟩

theorem run_cons (s : St) (t : Tick) (ts : List Tick) :
    run s (t :: ts) = (if (step s t).2 = .cont then run (step s t).1 ts else step s t) := by
  rw [run]
  rcases h : step s t with ⟨s1, r⟩
  cases r <;> simp

theorem run_inv {P : St → Prop} (hP : ∀ s t, P s → P (step s t).1) (ticks : List Tick) (s : St)
    (h : P s) : P (run s ticks).1 := by
  induction ticks generalizing s with
  | nil => exact h
  | cons t ts ih =>
    rw [run_cons]
    split
    · exact ih _ (hP s t h)
    · exact hP s t h

theorem run_last (ticks : List Tick) (s : St) (h : (run s ticks).2 ≠ .cont) :
    ∃ s0 t, t ∈ ticks ∧ step s0 t = run s ticks := by
  induction ticks generalizing s with
  | nil => exact absurd rfl h
  | cons t ts ih =>
    rw [run_cons] at h ⊢
    split at h
    · rename_i hc
      rw [if_pos hc]
      obtain ⟨s0, t0, m, e⟩ := ih _ h
      exact ⟨s0, t0, .tail _ m, e⟩
    · rename_i hc
      rw [if_neg hc]
      exact ⟨s, t, .head _, rfl⟩

theorem runEv_inv {P : St → Prop} (hP : ∀ s t, P s → P (step s t).1) (evs : List Ev) (s : St)
    (h : P s) : P (runEv s evs).1 := by
  induction evs generalizing s with
  | nil => exact h
  | cons e es ih =>
    rw [runEv.eq_def]
    cases e with
    | tick t =>
      have h1 := hP s t h
      dsimp only
      rcases hst : step s t with ⟨s1, _ | _ | _⟩ <;> rw [hst] at h1
      · exact ih s1 h1
      · exact h1
      · exact h1
    | reap el to =>
      dsimp only
      split
      · exact h
      · exact ih s h

theorem runEv_last (evs : List Ev) (s : St) :
    ((runEv s evs).2 = .teardown → ∃ s0 t, Ev.tick t ∈ evs ∧ step s0 t = ((runEv s evs).1, .teardown)) ∧
    ((runEv s evs).2 = .reaped → (runEv s evs).1.client.hasBuffer = false) := by
  induction evs generalizing s with
  | nil => exact ⟨nofun, nofun⟩
  | cons e es ih =>
    rw [runEv.eq_def]
    cases e with
    | tick t =>
      dsimp only
      rcases hst : step s t with ⟨s1, _ | _ | _⟩
      · exact ⟨fun h => (fun ⟨s0, t0, m, e⟩ => ⟨s0, t0, .tail _ m, e⟩) ((ih s1).1 h), (ih s1).2⟩
      · exact ⟨fun _ => ⟨s, t, .head _, hst⟩, nofun⟩
      · exact ⟨nofun, nofun⟩
    | reap el to =>
      dsimp only
      split
      · rename_i hi
        refine ⟨nofun, fun _ => ?_⟩
        unfold isInactive at hi
        cases hb : s.client.hasBuffer with
        | false => rfl
        | true => rw [hb] at hi; exact nomatch hi
      · exact ⟨fun h => (fun ⟨s0, t0, m, e⟩ => ⟨s0, t0, .tail _ m, e⟩) ((ih s).1 h), (ih s).2⟩

theorem DownStep.segs {s s' : St} {seg : Bytes} {t : Tick} (h : DownStep s s' seg t) :
    ∃ sg : List Bytes, sg.flatten = seg ∧ s'.queuedC = s.queuedC ++ sg ∧
      ∀ b ∈ sg, b ≠ [] ∧ t.uRecv = .data b := by
  rcases h.q with hq | ⟨h1, h2, h3⟩
  · have := h.qf
    rw [hq] at this
    exact ⟨[], (List.append_right_eq_self.mp this.symm).symm, by rw [hq, List.append_nil], nofun⟩
  · exact ⟨[seg], List.flatten_singleton, h3, fun b hb => by cases List.mem_singleton.mp hb; exact ⟨h2, h1⟩⟩

theorem run_down (ticks : List Tick) (s : St) (hk : s.kind ≠ .local) :
    ∃ segs : List Bytes,
      (run s ticks).1.recvU = s.recvU ++ segs.flatten ∧
      (run s ticks).1.queuedC = s.queuedC ++ segs ∧
      ∀ b ∈ segs, b ≠ [] ∧ ∃ t ∈ ticks, t.uRecv = .data b := by
  induction ticks generalizing s with
  | nil => exact ⟨[], (List.append_nil _).symm, (List.append_nil _).symm, nofun⟩
  | cons t ts ih =>
    obtain ⟨seg, h⟩ := step_down s t hk
    obtain ⟨sg, q1, q2, q3⟩ := h.segs
    have q3' : ∀ b ∈ sg, b ≠ [] ∧ ∃ t' ∈ t :: ts, t'.uRecv = .data b :=
      fun b hb => ⟨(q3 b hb).1, t, .head _, (q3 b hb).2⟩
    rw [run_cons]
    split
    · obtain ⟨segs, i1, i3, i4⟩ := ih (step s t).1 (by rw [h.kind]; exact hk)
      refine ⟨sg ++ segs, ?_, ?_, fun b hb => ?_⟩
      · rw [i1, h.recvU, ← q1, List.flatten_append, List.append_assoc]
      · rw [i3, q2, List.append_assoc]
      · rcases List.mem_append.mp hb with hb | hb
        · exact q3' b hb
        · obtain ⟨n1, t', ht', e⟩ := i4 b hb
          exact ⟨n1, t', .tail _ ht', e⟩
    · exact ⟨sg, by rw [h.recvU, q1], q2, q3'⟩

theorem run_up (ticks : List Tick) (s : St) (hk : s.kind = .tunnel) (hc : s.upstream.closed = false) :
    (∃ segs : Bytes, (run s ticks).1.recvC = s.recvC ++ segs ∧ U (run s ticks).1 = U s ++ segs) ∧
    (run s ticks).2 ≠ .raised := by
  induction ticks generalizing s with
  | nil => exact ⟨⟨[], (List.append_nil _).symm, (List.append_nil _).symm⟩, nofun⟩
  | cons t ts ih =>
    obtain ⟨seg, h⟩ : ∃ seg, UpStep s (step s t).1 seg := tick_up s (mask (events s) t) hk hc
    rw [run_cons]
    split
    · obtain ⟨⟨segs, i1, i2⟩, i3⟩ := ih (step s t).1 (by rw [h.kind]; exact hk) (by rw [h.closed]; exact hc)
      exact ⟨⟨seg ++ segs, by rw [i1, h.recvC, List.append_assoc], by rw [i2, h.u, List.append_assoc]⟩, i3⟩
    · exact ⟨⟨seg, h.recvC, h.u⟩, fun hr => (tick_raised s _ hr).1 hk⟩

theorem tick_no_early_close (s : St) (t : Tick) (h : (tick s t).2 = .teardown)
    (hb : (tick s t).1.client.hasBuffer = true) : ClientSendFailed s t := by
  rcases tick_cases s t with ⟨s1, hcw, _, _, e⟩ | ⟨s1, s2, _, e⟩ <;> rw [e] at h hb
  · rcases phaseCW_true _ t (by rw [hcw]) with hf | he
    · exact hf
    · rw [hcw] at he; rw [show s1.client.hasBuffer = true from hb] at he; exact nomatch he
  · rw [readHalf_teardown s2 t h] at hb; exact nomatch hb

theorem step_no_early_close (s : St) (t : Tick) (h : (step s t).2 = .teardown)
    (hb : (step s t).1.client.hasBuffer = true) : ClientSendFailed s t := by
  obtain ⟨h1, h2, h3⟩ := tick_no_early_close s (mask (events s) t) h hb
  exact ⟨((Bool.and_eq_true _ _).mp h1).1, h2, h3⟩

theorem run_no_early_close (ticks : List Tick) (s : St) (h : (run s ticks).2 = .teardown)
    (hb : (run s ticks).1.client.hasBuffer = true) :
    ∃ s0 t, t ∈ ticks ∧ ClientSendFailed s0 t ∧ step s0 t = run s ticks := by
  obtain ⟨s0, t, hm, e⟩ := run_last ticks s (by rw [h]; nofun)
  rw [← e] at h hb
  exact ⟨s0, t, hm, step_no_early_close s0 t h hb, e⟩

theorem tick_prompt (s : St) (t : Tick) (hf : s.mustFlush = true ∨ s.readsTeared = true)
    (hi : s.mustFlush = true → s.client.hasBuffer = true)
    (he : (tick s t).1.client.hasBuffer = false) : (tick s t).2 = .teardown := by
  rcases tick_cases s t with ⟨s1, _, _, _, e⟩ | ⟨s1, s2, hw, e⟩ <;> rw [e] at he ⊢
  -- the read half only appends to the client buffer, so it was empty after the client flush already:
  -- the flag cannot have been up, and reads were torn down before the tick
  obtain ⟨extra, hx⟩ := readHalf_client s2 t
  have h1 : s1.client.hasBuffer = false := hw.client ▸ hasBuffer_append_false _ _ _ hx he
  have hrt : s2.readsTeared = true := by
    refine hw.readsTeared (hf.resolve_left fun hm => ?_)
    rw [hw.pending hm (hi hm)] at h1; exact nomatch h1
  rcases readHalf_cases s2 t with ⟨_, e⟩ | ⟨hn, _⟩
  · rw [e] at he ⊢
    have he : s2.client.hasBuffer = false := he
    unfold finish; rw [hrt, he]; rfl
  · rw [hrt] at hn; exact nomatch hn

theorem step_mustFlush (s : St) (t : Tick) (hm : s.mustFlush = true) :
    (events s).cR = false ∧ (step s t).1.recvC = s.recvC ∧
    ((step s t).2 = .cont → (step s t).1.mustFlush = true) := by
  have hcR : (mask (events s) t).cR = false := by simp [mask, events, hm]
  refine ⟨by simp [events, hm], ?_⟩
  unfold step
  rcases tick_cases s (mask (events s) t) with ⟨s1, _, _, hu, e⟩ | ⟨s1, s2, hw, e⟩ <;> rw [e]
  · exact ⟨hu.recvC.trans (List.append_nil _), nofun⟩
  · obtain ⟨r1, r2⟩ := readHalf_cR_off s2 _ hcR
    exact ⟨r1.trans (hw.up.recvC.trans (List.append_nil _)), fun _ => r2.trans (hw.mustFlush.trans hm)⟩

/-- reads are torn down (upstream closed / failed, client closed its sending side), or a close
    was requested with output pending on a connection without upstream (error response,
    web-server reply) -/
def FinalFlush (s : St) : Prop :=
  s.readsTeared = true ∨ (s.mustFlush = true ∧ s.kind = .local)

/-- a close is requested (`mustFlush`) only while client output is pending -/
def FlushInv (s : St) : Prop := s.mustFlush = true → s.client.hasBuffer = true

/-- the client is reported writable and its `send` accepts at least one byte -/
def GoodTick (t : Tick) : Prop := t.cW = true ∧ ∃ k, t.cSend = .sent (k + 1)

theorem phaseCW_flushInv (s : St) (t : Tick) (hi : FlushInv s) : FlushInv (phaseCW s t).1 := by
  unfold phaseCW
  split
  · rw [afterCW_eq]
    intro hm
    cases he : (flush s.maxSend s.client t.cSend).exc with
    | some e => rw [show _ = s.client from (flush_exc_conn _ _ _ e he).1]; exact hi (by simp_all)
    | none => simp_all
  · exact hi

theorem afterHD_flushInv (s : St) (hd : HD) (hi : FlushInv s) : FlushInv (afterHD s hd).1 := by
  unfold afterHD
  rcases hd with ⟨_ | _⟩ | _
  · exact hi
  · dsimp only; split
    · rename_i h; exact fun _ => h
    · exact hi
  · exact hi

theorem phaseCR_flushInv (s : St) (t : Tick) (hi : FlushInv s) : FlushInv (phaseCR s t).1 := by
  rcases phaseCR_cases s t with ⟨h, _⟩ | ⟨b, _, h⟩
  · rw [h]; exact hi
  · rw [h]
    apply afterHD_flushInv
    rcases onClientData_fst { s with recvC := s.recvC ++ b } b t.app with e | ⟨x, _, e⟩ | ⟨x, _, e⟩ <;> rw [e]
    · exact hi
    · exact hi
    · exact fun _ => queue_hasBuffer _ _

theorem phaseUR_flushInv (s : St) (t : Tick) (hi : FlushInv s) : FlushInv (phaseUR s t).1 := by
  rcases phaseUR_cases s t with ⟨r, h⟩ | ⟨d, _, _, h⟩ <;> rw [h]
  · exact hi
  · exact fun _ => queue_hasBuffer _ _

theorem readHalf_flushInv (s : St) (t : Tick) (hi : FlushInv s) : FlushInv (readHalf s t).1 :=
  readHalf_inv s t hi (phaseCR_flushInv s t hi) (phaseUR_flushInv _ t) (fun _ _ h => h)

theorem tick_flushInv (s : St) (t : Tick) (hi : FlushInv s) : FlushInv (tick s t).1 := by
  rcases tick_cases s t with ⟨s1, hcw, _, _, e⟩ | ⟨s1, s2, hw, e⟩ <;> rw [e]
  · have h1 : FlushInv (phaseCW { s with trC := none, trU := none } t).1 := phaseCW_flushInv _ t hi
    rw [hcw] at h1; exact h1
  · exact readHalf_flushInv s2 t fun hm =>
      have hm : s.mustFlush = true := hw.mustFlush ▸ hm
      hw.client ▸ hw.pending hm (hi hm)

theorem step_final (s : St) (t : Tick) (hf : FinalFlush s) :
    (step s t).1.client = (phaseCW { s with trC := none, trU := none } (mask (events s) t)).1.client ∧
    (step s t).1.sentC = (phaseCW { s with trC := none, trU := none } (mask (events s) t)).1.sentC ∧
    (step s t).1.recvU = s.recvU ∧ (step s t).1.recvC = s.recvC ∧
    (step s t).2 ≠ .raised ∧ ((step s t).2 = .cont → FinalFlush (step s t).1) := by
  unfold step
  rcases tick_cases s (mask (events s) t) with ⟨s1, hcw, hd, hu, e⟩ | ⟨s1, s2, hw, e⟩ <;> rw [e]
  · rw [hcw]
    exact ⟨rfl, rfl, hd.recvU.trans (List.append_nil _), hu.recvC.trans (List.append_nil _), nofun, nofun⟩
  · rw [hw.cw]
    obtain ⟨b, hr, hff⟩ : ∃ b, readHalf s2 (mask (events s) t) = finish { s2 with readsTeared := b } ∧
        FinalFlush { s2 with readsTeared := b } := by
      rcases hf with hrt | ⟨hm, hk⟩
      · rcases readHalf_cases s2 (mask (events s) t) with ⟨_, e⟩ | ⟨hn, _⟩
        · exact ⟨s2.readsTeared, e, .inl (hw.readsTeared hrt)⟩
        · rw [hw.readsTeared hrt] at hn; exact nomatch hn
      · have hk2 : s2.kind = .local := hw.down.kind.trans hk
        obtain ⟨b, e⟩ := readHalf_quiet s2 (mask (events s) t) (by simp [mask, events, hm]) hk2
        exact ⟨b, e, .inr ⟨hw.mustFlush.trans hm, hk2⟩⟩
    rw [hr]
    exact ⟨hw.client, hw.sentC, hw.down.recvU.trans (List.append_nil _), hw.up.recvC.trans (List.append_nil _),
      finish_snd_ne_raised _, fun _ => hff⟩

theorem step_only_shrinks (s : St) (t : Tick) (hf : FinalFlush s) :
    ∃ w, s.client.buffer.flatten = w ++ (step s t).1.client.buffer.flatten ∧
      (step s t).1.sentC = s.sentC ++ w ∧
      pending (step s t).1.client ≤ pending s.client := by
  obtain ⟨h1, h2, _⟩ := step_final s t hf
  rw [h1, h2]
  unfold phaseCW
  split
  · rw [afterCW_eq]
    exact ⟨_, (flush_wire_append s.maxSend s.client _).symm, rfl, flush_pending_le _ _ _⟩
  · exact ⟨[], rfl, (List.append_nil _).symm, Nat.le_refl _⟩

theorem step_final_good (s : St) (t : Tick) (hf : FinalFlush s)
    (hb : s.client.hasBuffer = true) (hg : GoodTick t) :
    D (step s t).1 = D s ∧ pending (step s t).1.client < pending s.client ∧
    (((step s t).2 = .teardown ∧ (step s t).1.client.hasBuffer = false) ∨
     ((step s t).2 = .cont ∧ FinalFlush (step s t).1 ∧ (step s t).1.client.hasBuffer = true)) := by
  obtain ⟨h1, h2, _, _, h6, h7⟩ := step_final s t hf
  obtain ⟨gw, k, gk⟩ := hg
  obtain ⟨c1, c2⟩ := phaseCW_flush { s with trC := none, trU := none } (mask (events s) t)
    (by simp [mask, events, gw, hb]) hb
  rw [show (mask (events s) t).cSend = .sent (k + 1) from gk] at c1 c2
  refine ⟨?_, ?_, ?_⟩
  · unfold D; rw [h1, h2, c1, c2, List.append_assoc, flush_wire_append]
  · rw [h1, c1]; exact flush_pending_lt _ _ _ ((hasBuffer_true_iff _).mp hb)
  · cases hx : (step s t).1.client.hasBuffer with
    | false => exact .inl ⟨tick_prompt s _ (hf.elim .inr fun h => .inl h.1) (fun _ => hb) hx, rfl⟩
    | true =>
      cases hr : (step s t).2 with
      | raised => exact absurd hr h6
      | teardown =>
        obtain ⟨_, _, f⟩ := step_no_early_close s t hr hx
        rw [gk] at f
        rcases f with f | f | f <;> cases f
      | cont => exact .inr ⟨rfl, h7 hr, rfl⟩

theorem run_delivered (ticks : List Tick) (s : St) (hf : FinalFlush s)
    (hb : s.client.hasBuffer = true) (hg : ∀ t ∈ ticks, GoodTick t)
    (hn : pending s.client ≤ ticks.length) :
    (run s ticks).2 = .teardown ∧ (run s ticks).1.client.buffer = [] ∧
    (run s ticks).1.sentC = s.sentC ++ s.client.buffer.flatten := by
  induction ticks generalizing s with
  | nil =>
    cases hbuf : s.client.buffer with
    | nil => rw [(hasBuffer_false_iff _).mpr hbuf] at hb; exact nomatch hb
    | cons a b => rw [pending, hbuf] at hn; exact nomatch hn
  | cons t ts ih =>
    obtain ⟨d, p, c⟩ := step_final_good s t hf hb (hg t (.head _))
    rw [run_cons]
    rcases c with ⟨r, e⟩ | ⟨r, f', b'⟩
    · rw [if_neg (by rw [r]; nofun)]
      have he := (hasBuffer_false_iff _).mp e
      rw [D, he, List.flatten_nil, List.append_nil] at d
      exact ⟨r, he, d⟩
    · rw [if_pos r]
      obtain ⟨a1, a2, a3⟩ := ih (step s t).1 f' b' (fun x hx => hg x (.tail _ hx))
        (by rw [List.length_cons] at hn; omega)
      exact ⟨a1, a2, a3.trans d⟩

theorem tick_noEmpty (s : St) (t : Tick) (hk : s.kind ≠ .local) (h : NoEmpty s.client) :
    NoEmpty (tick s t).1.client := by
  have hcw : NoEmpty (phaseCW { s with trC := none, trU := none } t).1.client := by
    unfold phaseCW
    split
    · rw [afterCW_eq]; exact flush_noEmpty _ _ _ h
    · exact h
  rcases tick_cases s t with ⟨s1, e1, _, _, e⟩ | ⟨s1, s2, hw, e⟩ <;> rw [e]
  · rw [e1] at hcw; exact hcw
  · rw [hw.cw] at hcw
    exact readHalf_noEmpty s2 t (hw.down.kind ▸ hk) (hw.client ▸ hcw)

theorem run_noEmpty (ticks : List Tick) (s : St) (hk : s.kind ≠ .local) (h : NoEmpty s.client) :
    NoEmpty (run s ticks).1.client :=
  (run_inv (P := fun s => s.kind ≠ .local ∧ NoEmpty s.client)
    (fun s _ ⟨hk, h⟩ => ⟨(tick_down s _ hk).elim fun _ d => d.kind ▸ hk, tick_noEmpty s _ hk h⟩) ticks s ⟨hk, h⟩).2

theorem step_progress (s : St) (t : Tick) (mv : Bytes) (rest : List Bytes)
    (hb : s.client.buffer = mv :: rest) (hne : mv ≠ []) (hw : t.cW = true) (k : Nat)
    (hs : t.cSend = .sent (k + 1)) :
    ∃ w, w ≠ [] ∧ (step s t).1.sentC = s.sentC ++ w ∧ w <+: s.client.buffer.flatten ∧
      w.length = min (k + 1) (min (effMax s.maxSend) mv.length) := by
  have hhb : s.client.hasBuffer = true := by rw [hasBuffer_true_iff, hb]; nofun
  obtain ⟨_, c2⟩ := phaseCW_flush { s with trC := none, trU := none } (mask (events s) t)
    (by simp [mask, events, hw, hhb]) hhb
  rw [show (mask (events s) t).cSend = .sent (k + 1) from hs] at c2
  have hl : (flush s.maxSend s.client (.sent (k + 1))).wire.length =
      min (k + 1) (min (effMax s.maxSend) mv.length) := by
    rw [wire_length, flush_accepted _ _ _ mv rest hb]
  have hs : (step s t).1.sentC = (phaseCW { s with trC := none, trU := none } (mask (events s) t)).1.sentC := by
    unfold step
    rcases tick_cases s (mask (events s) t) with ⟨s1, e1, _, _, e⟩ | ⟨s1, s2, hw, e⟩ <;> rw [e]
    · rw [e1]
    · rw [hw.cw]; exact (readHalf_sentC s2 _).trans hw.sentC
  refine ⟨_, fun h0 => ?_, hs.trans c2, ⟨_, flush_wire_append _ _ _⟩, hl⟩
  rw [h0, List.length_nil] at hl
  exact Nat.ne_of_lt (Nat.lt_min.mpr ⟨Nat.succ_pos k,
    Nat.lt_min.mpr ⟨effMax_pos _, List.length_pos_iff.mpr hne⟩⟩) hl

/-- what `flushLoop` returns (`r`) against what it was given: no byte is lost, and every way of
    ending has its cause in the script -/
structure LoopSpec (c : Conn) (sent : Bytes) (script : List SelEv) (r : Conn × Bytes × FlushEnd) : Prop where
  bytes : r.2.1 ++ r.1.buffer.flatten = sent ++ c.buffer.flatten
  closed : r.1.closed = c.closed
  drained : r.2.2 = .drained ↔ r.1.buffer = []
  brokenPipe : r.2.2 = .brokenPipe → .ready .brokenPipe ∈ script
  osError : r.2.2 = .osError → .ready .osError ∈ script ∨ .ready .sslWantWrite ∈ script

theorem LoopSpec.skip {c : Conn} {sent : Bytes} {es : List SelEv} {r : Conn × Bytes × FlushEnd} (e : SelEv)
    (h : LoopSpec c sent es r) : LoopSpec c sent (e :: es) r :=
  { h with brokenPipe := fun x => .tail _ (h.brokenPipe x), osError := fun x => (h.osError x).imp (.tail _) (.tail _) }

/-- the loop ends on a `send` that raised: nothing went out and the buffer is as it was, not empty -/
theorem LoopSpec.stop {m : Nat} {c : Conn} {o : SendOut} {x : FlushExc} (sent : Bytes) (es : List SelEv)
    (e : FlushEnd) (hne : c.buffer ≠ []) (he : (flush m c o).exc = some x) (hd : e ≠ .drained)
    (hbp : e = .brokenPipe → o = .brokenPipe) (hos : e = .osError → o = .osError ∨ o = .sslWantWrite) :
    LoopSpec c sent (.ready o :: es) ((flush m c o).conn, sent ++ (flush m c o).wire, e) where
  bytes := (List.append_assoc ..).trans (congrArg _ (flush_wire_append m c o))
  closed := flush_closed m c o
  drained := ⟨fun h0 => absurd h0 hd, fun h0 => absurd ((flush_exc_conn m c o x he).1 ▸ h0) hne⟩
  brokenPipe := fun h0 => hbp h0 ▸ .head _
  osError := fun h0 => match hos h0 with
    | .inl ho => .inl (ho ▸ .head _)
    | .inr ho => .inr (ho ▸ .head _)

theorem flushLoop_spec (m : Nat) (script : List SelEv) (c : Conn) (sent : Bytes) :
    LoopSpec c sent script (flushLoop m c sent script) := by
  fun_induction flushLoop m c sent script with
  | case1 c sent =>
    cases hb : c.hasBuffer with
    | false => exact ⟨rfl, rfl, ⟨fun _ => (hasBuffer_false_iff c).mp hb, fun _ => rfl⟩, nofun, nofun⟩
    | true => exact ⟨rfl, rfl, ⟨nofun, fun h0 => absurd h0 ((hasBuffer_true_iff c).mp hb)⟩, nofun, nofun⟩
  | case2 c sent e es h =>
    exact ⟨rfl, rfl, by simpa [hasBuffer_false_iff] using h, nofun, nofun⟩
  | case3 c sent es h ih => exact ih.skip _
  | case4 c sent es h o r he =>
    refine .stop sent es _ (by simpa [hasBuffer_false_iff] using h) he nofun (fun _ => ?_) nofun
    rcases flush_exc_eq m c o _ he with ⟨_, ho⟩ | ⟨hx, _⟩ | ⟨hx, _⟩
    · exact ho
    · cases hx
    · cases hx
  | case5 c sent es h o r x hx he =>
    refine .stop sent es _ (by simpa [hasBuffer_false_iff] using h) he nofun nofun (fun _ => ?_)
    rcases flush_exc_eq m c o _ he with ⟨hx', _⟩ | ⟨_, ho⟩ | ⟨_, ho⟩
    · exact absurd hx' hx
    · exact .inl ho
    · exact .inr ho
  | case6 c sent es h o r he ih =>
    have ih := ih.skip (.ready o)
    exact { ih with
      bytes := ih.bytes.trans ((List.append_assoc ..).trans (congrArg _ (flush_wire_append m c o)))
      closed := ih.closed.trans (flush_closed m c o) }

def readyCount : List SelEv → Nat
  | [] => 0
  | .timeout :: es => readyCount es
  | .ready _ :: es => readyCount es + 1

theorem flushLoop_drains (m : Nat) (script : List SelEv) (c : Conn) (sent : Bytes)
    (hg : ∀ e ∈ script, e = .timeout ∨ ∃ k, e = .ready (.sent (k + 1)))
    (hn : pending c ≤ readyCount script) :
    (flushLoop m c sent script).2.2 = .drained ∧
    (flushLoop m c sent script).2.1 = sent ++ c.buffer.flatten := by
  have h : (flushLoop m c sent script).2.2 = .drained := by
    fun_induction flushLoop m c sent script with
    | case1 c sent =>
      have : c.buffer = [] := by
        cases hb : c.buffer with
        | nil => rfl
        | cons a b => rw [pending, hb] at hn; simp [readyCount] at hn
      rw [(hasBuffer_false_iff c).mpr this]; rfl
    | case2 => rfl
    | case3 c sent es h ih => exact ih (fun x hx => hg x (.tail _ hx)) hn
    | case4 c sent es h o r he | case5 c sent es h o r x hx he =>
      rcases hg _ (.head _) with h0 | ⟨k, h0⟩
      · cases h0
      · cases h0; exact nomatch (flush_sent_exc m c (k + 1)).symm.trans he
    | case6 c sent es h o r he ih =>
      refine ih (fun x hx => hg x (.tail _ hx)) ?_
      rcases hg _ (.head _) with h0 | ⟨k, h0⟩
      · cases h0
      · cases h0
        have : pending r.conn < pending c := flush_pending_lt m c k (by simpa [hasBuffer_false_iff] using h)
        simp only [readyCount] at hn
        omega
  have hs := flushLoop_spec m script c sent
  have hacc := hs.bytes
  rw [hs.drained.mp h, List.flatten_nil, List.append_nil] at hacc
  exact ⟨h, hacc⟩

theorem step_flush_whole (k : Kind) (m : Nat) (p : Bytes) (t : Tick) (n : Nat)
    (hw : t.cW = true) (hs : t.cSend = .sent n) (hn : p.length ≤ n) (hm : p.length ≤ Conn.effMax m) :
    (step (st0 k m [p] [] true false) t).2 = .teardown ∧ (step (st0 k m [p] [] true false) t).1.sentC = p := by
  have ht : p.take (Conn.effMax m) = p := List.take_of_length_le hm
  have hmin : min n p.length = p.length := Nat.min_eq_right hn
  simp [step, tick, mask, events, st0, phaseCW, afterCW, Conn.hasBuffer, hw, hs, Conn.flush, FlushRes.wire, ht, hmin]

end Px.Relay

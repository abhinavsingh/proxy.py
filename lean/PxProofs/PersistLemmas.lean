import PxModel.Persist
import PxProofs.RelayLemmas
/-!
# C04: the relay under a well-behaved environment

`benign t`: in round `t` no peer closes or resets and no `send` / `recv` fails
(data, short writes, would-block, TLS want-read / want-write only).  Under such
rounds an established exchange whose application step is quiet (`.ok none none false`: nothing
queued, `handle_data` returns False) is never torn down by the proxy: a round only moves bytes
(`Quiet`), and what it reads from the client is the segment on offer (`readOf`).
-/
namespace Px.Persist
open Px Px.Relay Px.Conn

def benign (t : Tick) : Bool :=
  (match t.cRecv with | .data b => !b.isEmpty | .sslWantRead => true | _ => false) &&
  (match t.uRecv with | .data b => !b.isEmpty | .sslWantRead => true | _ => false) &&
  (match t.cSend with | .sent _ => true | .blocking => true | _ => false) &&
  (match t.uSend with | .sent _ => true | .blocking => true | .sslWantWrite => true | _ => false)

def RecvOk (o : RecvOut) : Prop := o = .sslWantRead ∨ ∃ b, o = .data b ∧ b.isEmpty = false

/-- `benign t`, outcome by outcome -/
structure BenignParts (t : Tick) : Prop where
  cRecv : RecvOk t.cRecv
  uRecv : RecvOk t.uRecv
  cSend : t.cSend = .blocking ∨ ∃ k, t.cSend = .sent k
  uSend : t.uSend = .blocking ∨ t.uSend = .sslWantWrite ∨ ∃ k, t.uSend = .sent k

theorem benign_parts {t : Tick} (h : benign t = true) : BenignParts t := by
  simp only [benign, Bool.and_eq_true] at h
  obtain ⟨⟨⟨h1, h2⟩, h3⟩, h4⟩ := h
  refine ⟨?_, ?_, ?_, ?_⟩
  · cases hc : t.cRecv <;> simp [hc, RecvOk] at h1 ⊢; exact h1
  · cases hc : t.uRecv <;> simp [hc, RecvOk] at h2 ⊢; exact h2
  · cases hc : t.cSend <;> simp [hc] at h3 ⊢
  · cases hc : t.uSend <;> simp [hc] at h4 ⊢

theorem flush_exc_none_blocking (m : Nat) (c : Conn) : (flush m c .blocking).exc = none := by
  rw [flush_exc]; split <;> rfl

theorem benign_cSend {t : Tick} (h : benign t = true) (m : Nat) (c : Conn) : (flush m c t.cSend).exc = none := by
  rcases (benign_parts h).cSend with hs | ⟨k, hs⟩ <;> rw [hs]
  · exact flush_exc_none_blocking m c
  · exact flush_sent_exc m c k

theorem benign_uSend {t : Tick} (h : benign t = true) (m : Nat) (c : Conn) :
    (flush m c t.uSend).exc = none ∨ (flush m c t.uSend).exc = some .sslWantWrite := by
  rcases (benign_parts h).uSend with hs | hs | ⟨k, hs⟩ <;> rw [hs]
  · exact .inl (flush_exc_none_blocking m c)
  · rw [flush_exc]; split
    · exact .inl rfl
    · exact .inr rfl
  · exact .inl (flush_sent_exc m c k)

theorem benign_mask {t : Tick} (i : Interest) (h : benign t = true) : benign (mask i t) = true := h

theorem benign_app {t : Tick} (a : AppOut) (h : benign t = true) : benign { t with app := a } = true := h

structure Alive (s : St) : Prop where
  mustFlush : s.mustFlush = false
  readsTeared : s.readsTeared = false
  upOpen : s.upstream.closed = false

/-- from `s` to `s'` only bytes have moved; `raw` is what was read from the client -/
structure Quiet (s s' : St) (raw : Bytes) : Prop where
  kind : s'.kind = s.kind
  mustFlush : s'.mustFlush = s.mustFlush
  readsTeared : s'.readsTeared = s.readsTeared
  upClosed : s'.upstream.closed = s.upstream.closed
  up : U s' = U s
  recvC : s'.recvC = s.recvC ++ raw
  down : ∃ seg, s'.recvU = s.recvU ++ seg ∧ D s' = D s ++ seg

theorem Quiet.of_eq {s s' : St} (hk : s'.kind = s.kind)
    (hm : s'.mustFlush = s.mustFlush) (hr : s'.readsTeared = s.readsTeared) (hu : s'.upstream = s.upstream)
    (hsu : s'.sentU = s.sentU) (hrc : s'.recvC = s.recvC) (hru : s'.recvU = s.recvU) (hd : D s' = D s) :
    Quiet s s' [] :=
  ⟨hk, hm, hr, by rw [hu], by rw [U, U, hu, hsu], by rw [hrc, List.append_nil], [], by rw [hru, List.append_nil],
    by rw [hd, List.append_nil]⟩

theorem Quiet.trans {s s' s'' : St} {a b : Bytes} (h : Quiet s s' a) (h' : Quiet s' s'' b) : Quiet s s'' (a ++ b) := by
  obtain ⟨x, hx, hx'⟩ := h.down
  obtain ⟨y, hy, hy'⟩ := h'.down
  exact ⟨h'.kind.trans h.kind, h'.mustFlush.trans h.mustFlush,
    h'.readsTeared.trans h.readsTeared, h'.upClosed.trans h.upClosed, h'.up.trans h.up,
    by rw [h'.recvC, h.recvC, List.append_assoc], x ++ y, by rw [hy, hx, List.append_assoc],
    by rw [hy', hx', List.append_assoc]⟩

theorem Quiet.alive {s s' : St} {raw : Bytes} (h : Quiet s s' raw) (ha : Alive s) : Alive s' :=
  ⟨h.mustFlush.trans ha.mustFlush, h.readsTeared.trans ha.readsTeared, h.upClosed.trans ha.upOpen⟩

/-- `D s = s.recvU`: C01's downstream invariant of a plain-HTTP exchange -/
theorem Quiet.downInv {s s' : St} {raw : Bytes} (h : Quiet s s' raw) (hd : D s = s.recvU) : D s' = s'.recvU := by
  obtain ⟨x, hx, hx'⟩ := h.down
  rw [hx', hx, hd]

theorem phaseCW_quiet (s : St) (t : Tick) (hb : benign t = true) (hm : s.mustFlush = false) :
    ∃ s', phaseCW s t = (s', false) ∧ Quiet s s' [] := by
  obtain ⟨cl, sc, tr, mf, e, d⟩ := phaseCW_frame s t
  have hw : (phaseCW s t).2 = false := by
    unfold phaseCW
    split
    · rw [afterCW_eq, benign_cSend hb, hm]; rfl
    · rfl
  have hmf := (phaseCW_false s t hw).2
  refine ⟨(phaseCW s t).1, Prod.ext rfl hw, ?_⟩
  rw [e] at hmf d ⊢
  exact .of_eq rfl hmf rfl rfl rfl rfl rfl d

theorem phaseUW_quiet (s : St) (t : Tick) (hb : benign t = true) :
    ∃ s', phaseUW s t = (s', false) ∧ Quiet s s' [] := by
  obtain ⟨up, su, tr, e, hc, hu⟩ := phaseUW_frame s t
  refine ⟨(phaseUW s t).1, Prod.ext rfl ?_, ?_⟩
  · unfold phaseUW
    split
    · unfold afterUW
      rcases benign_uSend hb s.maxSend s.upstream with h | h <;> simp [h]
    · rfl
  · rw [e] at hu ⊢
    exact ⟨rfl, rfl, rfl, hc, hu, (List.append_nil _).symm, [], (List.append_nil _).symm,
      (List.append_nil _).symm⟩

theorem phaseUR_quiet (s : St) (t : Tick) (hb : benign t = true) :
    ∃ s', phaseUR s t = (s', false) ∧ Quiet s s' [] := by
  have hw : (phaseUR s t).2 = false := by
    unfold phaseUR
    split
    · rcases (benign_parts hb).uRecv with h | ⟨d, h, hd⟩
      · simp [h, Conn.recv]
      · simp [h, Conn.recv, hd]
    · rfl
  rcases phaseUR_cases s t with ⟨r, h⟩ | ⟨d, _, _, h⟩ <;> rw [h] at hw ⊢
  · exact ⟨s, by rw [show r = false from hw], .of_eq rfl rfl rfl rfl rfl rfl rfl rfl⟩
  · exact ⟨_, rfl, rfl, rfl, rfl, rfl, rfl, (List.append_nil _).symm, d, rfl,
      by simp only [D, queue_flatten, List.append_assoc]⟩

def readOf (t : Tick) : Option Bytes := if t.cR then segOf t.cRecv else none

theorem readOf_benign {t : Tick} (hb : benign t = true) :
    (∃ raw, raw.isEmpty = false ∧ t.cR = true ∧ t.cRecv = .data raw ∧ readOf t = some raw) ∨
    ((t.cR = false ∨ t.cRecv = .sslWantRead) ∧ readOf t = none) := by
  unfold readOf
  cases hc : t.cR
  · exact .inr ⟨.inl rfl, rfl⟩
  · rcases (benign_parts hb).cRecv with h | ⟨d, h, hd⟩
    · exact .inr ⟨.inr h, by simp [h, segOf]⟩
    · exact .inl ⟨d, hd, rfl, h, by simp [h, segOf, hd]⟩

theorem onClientData_quiet (s : St) (raw : Bytes) (hk : s.kind ≠ .tunnel) (hc : s.upstream.closed = false) :
    onClientData s raw (.ok none none false) = (s, .ret false) := by
  unfold onClientData
  cases hkind : s.kind with
  | tunnel => exact absurd hkind hk
  | http => simp [hc]
  | «local» => rfl

theorem phaseCR_quiet (s : St) (t : Tick) (hk : s.kind ≠ .tunnel) (hc : s.upstream.closed = false)
    (hb : benign t = true) (happ : (readOf t).isSome = true → t.app = .ok none none false) :
    ∃ s', phaseCR s t = (s', .no) ∧ Quiet s s' ((readOf t).getD []) := by
  rcases readOf_benign hb with ⟨raw, hne, hcr, hd, hr⟩ | ⟨hidle, hr⟩
  · have hq : onClientData { s with recvC := s.recvC ++ raw } raw t.app =
        ({ s with recvC := s.recvC ++ raw }, .ret false) := by
      rw [happ (by rw [hr]; rfl)]
      exact onClientData_quiet _ raw hk hc
    have e : phaseCR s t = ({ s with recvC := s.recvC ++ raw }, .no) := by
      simp only [phaseCR, hcr, if_true, hd, Conn.recv, hne, Bool.false_eq_true, if_false, hq, afterHD]
    rw [hr]
    exact ⟨_, e, rfl, rfl, rfl, rfl, rfl, rfl, [], by simp, by simp [D]⟩
  · have e : phaseCR s t = (s, .no) := by
      unfold phaseCR
      rcases hidle with h | h
      · simp only [h, Bool.false_eq_true, if_false]
      · cases t.cR <;> simp only [h, Conn.recv, Bool.false_eq_true, if_false, if_true]
    rw [hr]
    exact ⟨_, e, .of_eq rfl rfl rfl rfl rfl rfl rfl rfl⟩

theorem tick_benign (s : St) (t : Tick) (hk : s.kind ≠ .tunnel) (ha : Alive s) (hb : benign t = true)
    (happ : (readOf t).isSome = true → t.app = .ok none none false) :
    (tick s t).2 = .cont ∧ Quiet s (tick s t).1 ((readOf t).getD []) := by
  -- phase by phase, not through `tick_cases`: that `reads_teared` stays false needs the upstream flush to
  -- have returned `False`, which `WriteHalf` does not record
  obtain ⟨s1, e1, q1⟩ := phaseCW_quiet { s with trC := none, trU := none } t hb ha.mustFlush
  obtain ⟨s2, e2, q2⟩ := phaseUW_quiet { s1 with writesTeared := false } t hb
  -- the assignments to `trC`, `trU`, `writesTeared` in between are not seen by `Quiet`
  have q0 : Quiet s { s with trC := none, trU := none } [] := .of_eq rfl rfl rfl rfl rfl rfl rfl rfl
  have q1' : Quiet s1 { s1 with writesTeared := false } [] := .of_eq rfl rfl rfl rfl rfl rfl rfl rfl
  have q2' : Quiet s2 { s2 with writesTeared := false } [] := .of_eq rfl rfl rfl rfl rfl rfl rfl rfl
  have q : Quiet s { s2 with writesTeared := false } [] := (((q0.trans q1).trans q1').trans q2).trans q2'
  have ha3 := q.alive ha
  obtain ⟨s4, e3, q3⟩ := phaseCR_quiet { s2 with writesTeared := false } t (by rw [q.kind]; exact hk) ha3.upOpen hb happ
  obtain ⟨s5, e4, q4⟩ := phaseUR_quiet s4 t hb
  have hrt : s5.readsTeared = false := q4.readsTeared.trans (q3.readsTeared.trans ha3.readsTeared)
  have e : tick s t = ({ s5 with readsTeared := false }, .cont) := by
    have h3 : ¬ s2.readsTeared = true := by simp [show s2.readsTeared = false from ha3.readsTeared]
    simp only [tick, e1, e2, Bool.or_false, readHalf]
    rw [if_neg h3]
    simp only [e3, e4, finish, Bool.false_and, Bool.false_eq_true, if_false]
  rw [e]
  have := (q.trans q3).trans (q4.trans (.of_eq (s' := { s5 with readsTeared := false }) rfl rfl hrt.symm
    rfl rfl rfl rfl rfl))
  exact ⟨rfl, by simpa using this⟩

theorem step_benign (s : St) (t : Tick) (hk : s.kind ≠ .tunnel) (ha : Alive s) (hb : benign t = true)
    (happ : (readOf t).isSome = true → t.app = .ok none none false) :
    (step s t).2 = .cont ∧ Quiet s (step s t).1 ((readOf t).getD []) := by
  have hr : readOf (mask (events s) t) = readOf t := by
    show (if (t.cR && (events s).cR) = true then _ else _) = _
    simp [events, ha.mustFlush, readOf, mask]
  have h := tick_benign s (mask (events s) t) hk ha (benign_mask _ hb) (by rw [hr]; exact happ)
  rwa [hr] at h

end Px.Persist

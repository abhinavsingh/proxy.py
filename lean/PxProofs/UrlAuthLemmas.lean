import PxProofs.UrlIntLemmas
/-!
# `Url._parse` (`Url.parseAuthority`) is the userinfo step followed by `hostPort`
-/
namespace Px.UrlL
open Px Px.Url

abbrev AuthRes := Option Bytes × Option Bytes × Bytes × Option Int

/-- the "patch up invalid ipv6 scenario" step of `Url._parse` -/
def wrapV6 (host : Bytes) : Bytes :=
  if containsByte host COLON && host.head? != some LBR && host.getLast? != some RBR
  then [LBR] ++ host ++ [RBR] else host

/-- host and port in the "more than one colon" branch of `Url._parse` -/
def v6Split (hostport a c last : Bytes) : Bytes × Option Int :=
  match pyInt 10 ((splitAll1 COLON last).getLast?.getD []) with
  | some v => (a ++ [COLON] ++ c ++ [COLON] ++ join [COLON] (splitAll1 COLON last).dropLast, some v)
  | none => (hostport, none)

/-- second half of `Url._parse`, after the userinfo has been split off.  The first argument (the whole
    authority) is not used: the fallback host is `hostport`, the authority without userinfo (fix dbfef2b). -/
def hostPort (_raw : Bytes) (user pass : Option Bytes) (hostport : Bytes) : Except Err AuthRes :=
  match splitN1 COLON 2 hostport with
  | [h] => .ok (user, pass, h, none)
  | [h, p] =>
    match pyInt 10 p with
    | some v => .ok (user, pass, h, some v)
    | none => .error .valueError
  | [a, c, last] =>
    if utf8Valid (v6Split hostport a c last).1 then
      .ok (user, pass, wrapV6 (v6Split hostport a c last).1, (v6Split hostport a c last).2)
    else .error .valueError
  | _ => .error .valueError

theorem parseAuthority_eq (raw : Bytes) : parseAuthority raw =
    (match splitOnce1 AT raw with
     | none => hostPort raw none none raw
     | some (ui, hp) =>
       match splitAll1 COLON ui with
       | [u, p] => hostPort raw (some u) (some p) hp
       | _ => .error .valueError) := by
  unfold parseAuthority
  -- `jp` is the rest of the `do` block once the userinfo has been split off: it is `hostPort`
  extract_lets sa jp
  have key : ∀ u p hp, jp (u, p, hp) = hostPort raw u p hp := by
    intro u p hp
    unfold hostPort
    dsimp only [jp]
    rcases splitN1 COLON 2 hp with _ | ⟨h, _ | ⟨q, _ | ⟨l, _ | ⟨m, t⟩⟩⟩⟩
    · rfl
    · rfl
    · dsimp only; cases pyInt 10 q <;> rfl
    · unfold v6Split wrapV6
      dsimp only
      cases pyInt 10 _ <;> dsimp only <;> cases utf8Valid _ <;> rfl
    · rfl
  dsimp only [sa]
  rcases splitOnce1 AT raw with _ | ⟨ui, hp⟩
  · exact key _ _ _
  · dsimp only
    rcases splitAll1 COLON ui with _ | ⟨u, _ | ⟨p, _ | ⟨q, t⟩⟩⟩
    · rfl
    · rfl
    · exact key _ _ _
    · rfl

end Px.UrlL

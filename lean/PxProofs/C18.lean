import PxModel.Dispatcher
import PxProofs.DispatcherLemmas
/-!
# C18 — the event bus delivers each event to every current subscriber exactly once, in order

The model (`PxModel/Dispatcher.lean`: `handle` = `EventDispatcher.handle_event`
with `_broadcast`, `_send`, `_close_and_delete`, `_close`) is tied to
`proxy/core/event/dispatcher.py` by the correspondence check `harness/c18.py`
(real `EventDispatcher` over real `multiprocessing.Pipe` channels).

Hypothesis used throughout: `Fresh ops` — every `sub` operation carries a
channel no other `sub` operation of the history carries (each subscriber brings
its own new `Pipe`, as `EventSubscriber._start_relay_thread` does).  Without it
the statement is false for the real code: see the `example`s at the end.

What is assumed about `Connection.send` (and is *not* proved here): on a handle
the dispatcher has not closed, `send` either delivers or raises
`BrokenPipeError` (reader end gone) — the exception both `_send` and
`_broadcast` catch; on a handle the dispatcher has closed it raises `OSError`,
which nothing catches (`crashed`).  Other failures of a real pipe
(`ConnectionResetError` on platforms that report it on write, pickling errors
of the event, a `send` blocking on a full buffer) are outside the model.
-/
namespace Px.Disp

/-- **C18, every channel (also the ones that break).**  `scan` looks only at the
operations themselves, never at other subscribers' state. -/
theorem C18_general (ops : List Op) (c : ChanId) (h : Fresh ops) :
    chanLog (run init ops) c = scan c (false, none) ops :=
  (run_sim c ops init (false, none) inv_init (abs_init c) (freshFrom_init ops h)).2

/-- **C18 exactly once, in order, inside the window.**  A channel whose reader end
is never closed receives exactly `spec c none ops`, whatever the other
subscribers do, including breaking. -/
theorem C18_exact (ops : List Op) (c : ChanId) (h : Fresh ops) (hb : Op.brk c ∉ ops) :
    chanLog (run init ops) c = spec c none ops := by
  rw [C18_general ops c h]
  exact scan_none_spec c ops hb h

/-- the specification has the shape the property names -/
theorem C18_shape (ops : List Op) (c : ChanId) (h : Fresh ops) (hb : Op.brk c ∉ ops) :
    chanLog (run init ops) c = [] ∨
    ∃ (es : List Nat) (tl : List Msg),
      chanLog (run init ops) c = .subscribed :: es.map Msg.ev ++ tl ∧
      (tl = [] ∨ tl = [.unsubscribed]) ∧ es.Sublist (pubs ops) := by
  rw [C18_exact ops c h hb]
  exact spec_none_shape c ops

/-- **C18 isolation.**  Erasing every operation of the other subscribers (their
subscribes, unsubscribes, breakages of their channels) leaves the log of `c`
as it is.  `c` itself may break. -/
theorem C18_isolation (ops : List Op) (i : SubId) (c : ChanId) (h : Fresh ops)
    (ho : ∀ j, Op.sub j c ∈ ops → j = i) :
    chanLog (run init ops) c = chanLog (run init (erase i c ops)) c := by
  rw [C18_general ops c h, C18_general (erase i c ops) c (fresh_erase i c h)]
  exact (scan_erase i c ops (false, none) ho nofun).symm

theorem C18_isolation_owner (ops : List Op) (c : ChanId) (h : Fresh ops) :
    chanLog (run init ops) c = chanLog (run init (erase (ownerOf c ops) c ops)) c :=
  C18_isolation ops (ownerOf c ops) c h (fun _ hj => ownerOf_eq h hj)

/-- **C18 the dispatcher keeps running (safety).**  `crashed = none`: no exception
has escaped `handle_event`; in the model a `send` on a handle the dispatcher
closed sets `crashed` for good, so none was ever attempted, and the second
conjunct says the next `send` is on an open handle too. -/
theorem C18_no_closed_send (pre suf : List Op) (h : Fresh (pre ++ suf)) :
    (run init pre).crashed = none ∧
    (∀ p ∈ (run init pre).subs, p.2 ∉ (run init pre).closed) ∧
    ((run init pre).subs.map Prod.fst).Nodup ∧ ((run init pre).subs.map Prod.snd).Nodup := by
  have hp := fresh_prefix h
  have := (run_sim 0 pre init (false, none) inv_init (abs_init 0) (freshFrom_init pre hp)).1
  exact ⟨this.alive, this.opn, this.keys, this.chans⟩

/-- non-vacuity: three subscribers, a breakage in the middle, repeated and unknown unsubscribes -/
def demo : List Op :=
  [.sub 0 0, .sub 1 1, .pub 7, .brk 1, .pub 8, .sub 2 2, .pub 9, .unsub 0, .unsub 0, .unsub 5, .pub 10,
   .sub 2 3, .pub 11]

example : Fresh demo := by decide
example : Op.brk 0 ∉ demo := by decide
example : spec 0 none demo = [.subscribed, .ev 7, .ev 8, .ev 9, .unsubscribed] := by decide
example : spec 2 none demo = [.subscribed, .ev 9, .ev 10] := by decide           -- window ended by re-subscription
example : spec 3 none demo = [.subscribed, .ev 11] := by decide
example : chanLog (run init demo) 1 = [.subscribed, .ev 7] := by decide +kernel          -- the broken one
example : (run init demo).subs = [(2, 3)] := by decide +kernel
example : erase 0 0 demo = [.sub 0 0, .pub 7, .pub 8, .pub 9, .unsub 0, .unsub 0, .pub 10, .pub 11] := by decide
example : ∀ j, Op.sub j 0 ∈ demo → j = 0 := by
  intro j h; simp [demo] at h; exact h

/-- freshness is needed: when two ids share one channel, unsubscribing the first
closes the handle of the second, and the next publish raises out of
`handle_event` (reproduced on the real dispatcher by `harness/c18.py`, corpus
case `s0.0 s1.0 u0 p1`) -/
example : (run init [.sub 0 0, .sub 1 0, .unsub 0, .pub 1]).crashed = some .osErrorClosed := by decide
example : ¬ Fresh [.sub 0 0, .sub 1 0, .unsub 0, .pub 1] := by decide

end Px.Disp

import PxModel.Idle
import PxProofs.IdleLemmas
/-!
# C20 — idle connections are reaped after the timeout and active ones never are

The model (`PxModel/Idle.lean`) is tied to `proxy/http/handler.py`,
`proxy/core/connection/connection.py` and `proxy/core/work/threadless.py` by the
correspondence check `harness/c20.py` (real `HttpProtocolHandler`, real
`Threadless._run_forever`, real `HttpProtocolHandler.run`, virtual clock).

Time is in integer clock units, `cfg.timeout : Int` is arbitrary (the flag accepts
negative numbers), traces are unbounded lists of timed events.  A trace that stops
describes a connection that went away for another reason (or has not got further
yet), so statements about all traces cover every moment of every lifetime.
-/
namespace Px.Idle

theorem inactive_after (cfg : Cfg) (s : St) (lo t : Int) (pre : List Ev) (hm : Mono lo pre)
    (hs : s.lastActivity ≤ lo) (h : isInactive cfg (run cfg s pre) t = true) :
    (run cfg s pre).numBuffer = 0 ∧ s.lastActivity + cfg.timeout < t ∧
      ∀ u ∈ ioTimes cfg s pre, u + cfg.timeout < t := by
  have ⟨hnb, hlt⟩ := (isInactive_iff cfg _ t).1 h
  have ⟨d1, d2⟩ := la_dominates cfg pre s lo hm hs
  exact ⟨hnb, by omega, fun u hu => by have := d2 u hu; omega⟩

/-- **C20 safety.**  For every configuration (either mode, any cadence constants, any
timeout) and every timed trace with non-decreasing times starting when the handler
is created at `t0`: a connection closed by the reaper at `t` had no pending output, and every
client-side read or write ever handled is older than the timeout (none in `[t − timeout, t]`). -/
theorem C20_safety (cfg : Cfg) (t0 t : Int) (tr : List Ev) (hm : Mono t0 tr)
    (h : (run cfg (init t0) tr).status = .reaped t) :
    ∃ pre rest, tr = pre ++ .loopIter t :: rest ∧
      (run cfg (init t0) pre).status = .open ∧
      (run cfg (init t0) pre).numBuffer = 0 ∧
      t0 + cfg.timeout < t ∧
      ∀ u ∈ ioTimes cfg (init t0) pre, u + cfg.timeout < t := by
  obtain ⟨pre, rest, h1, h2, _, h4⟩ := reaped_split cfg tr (init t0) t rfl h
  exact ⟨pre, rest, h1, h2, inactive_after cfg (init t0) t0 t pre (Mono_append_left pre _ t0 (h1 ▸ hm)) (Int.le_refl _) h4⟩

/-- **C20 safety, "never" form**, in either mode, whatever the tick counter says. -/
theorem C20_active_never_reaped (cfg : Cfg) (t0 t : Int) (pre : List Ev) (hm : Mono t0 pre)
    (hopen : (run cfg (init t0) pre).status = .open)
    (hact : (run cfg (init t0) pre).numBuffer ≠ 0 ∨ t ≤ t0 + cfg.timeout ∨
      ∃ u ∈ ioTimes cfg (init t0) pre, t ≤ u + cfg.timeout) :
    (run cfg (init t0) (pre ++ [.loopIter t])).status = .open := by
  rw [run_append, run_cons, run_nil, step_loop_open cfg _ t hopen, if_neg]
  intro ⟨_, hi⟩
  have ⟨hnb, h0, hio⟩ := inactive_after cfg (init t0) t0 t pre hm (Int.le_refl _) hi
  rcases hact with h | h | ⟨u, hu, h⟩
  · exact h hnb
  · exact Int.not_le.2 h0 h
  · exact Int.not_le.2 (hio u hu) h

theorem C20_only_loop_closes (cfg : Cfg) (s : St) (e : Ev) (h : ∀ t, e ≠ .loopIter t)
    (ho : s.status = .open) :
    (step cfg s e).status = .open ∨ ∃ t, (step cfg s e).status = .torn t :=
  step_status_nonloop cfg s e h ho

def Cfg.Live (cfg : Cfg) : Prop := cfg.threaded = true ∨ 0 < cfg.sel + cfg.wait

instance (cfg : Cfg) : Decidable cfg.Live := by unfold Cfg.Live; infer_instance

/-- **cadence**: the tick test `tick * (select + wait) ≥ cleanup` of `_run_forever` is `tick ≥ period`. -/
theorem C20_due_iff (cfg : Cfg) (h : cfg.Live) (k : Nat) : due cfg k = true ↔ period cfg ≤ k := by
  by_cases ht : cfg.threaded = true
  · simp [due, period, ht]
  · have hp : 0 < cfg.sel + cfg.wait := Or.resolve_left h ht
    simp only [due, period, ht, Bool.false_or, decide_eq_true_eq, if_false, Bool.false_eq_true]
    generalize cfg.sel + cfg.wait = p at hp
    generalize cfg.cleanup = c
    rw [← Nat.lt_succ_iff, Nat.div_lt_iff_lt_mul hp, Nat.succ_mul]
    omega

/-- **cadence**: from `tick = 0` the reaper first runs in iteration `period + 1`; after a run
(`tick = 1`) it runs again exactly `period` iterations later. -/
theorem C20_cadence (cfg : Cfg) (h : cfg.Live) (n i : Nat) :
    reaperIters cfg (period cfg + 1 + n) 0 i
      = (i + period cfg + 1) :: reaperIters cfg n 1 (i + period cfg + 1) ∧
    (1 ≤ period cfg →
      reaperIters cfg (period cfg + n) 1 i = (i + period cfg) :: reaperIters cfg n 1 (i + period cfg)) := by
  have hdue := C20_due_iff cfg h
  generalize period cfg = N at hdue
  refine ⟨reaperIters_skip cfg N hdue N n 0 i (Nat.zero_add N), ?_⟩
  cases N with
  | zero => intro h1; cases h1
  | succ j => intro _; exact reaperIters_skip cfg (j + 1) hdue j n 1 i (Nat.add_comm 1 j)

/-- **cadence, concrete**: with the generated constants `select = 25 ms`, `wait = 1 ms`,
`cleanup = 1000 ms` the period is 39 iterations. -/
theorem C20_period_impl (timeout : Int) : period (implCfg timeout false) = 39 :=
  (by decide : period (implCfg 0 false) = 39)

theorem C20_cadence_impl : reaperIters (implCfg 0 false) 120 0 0 = [40, 79, 118] := by decide +kernel

/-- The threshold is crossed with a margin of ≥ 12 ms on either side
(`38·26 = 988 < 1000 ≤ 1014 = 39·26`), so evaluating the test in binary floating
point as the implementation does cannot change which iteration is due. -/
theorem C20_cadence_margin_impl :
    let c := implCfg 0 false
    (period c - 1) * (c.sel + c.wait) + 12 ≤ c.cleanup ∧ c.cleanup + 12 ≤ period c * (c.sel + c.wait) := by
  decide +kernel

theorem C20_period_threaded (cfg : Cfg) (h : cfg.threaded = true) : period cfg = 0 := by
  simp [period, h]

example : (implCfg 10240 false).Live := by decide +kernel
example : (implCfg 10240 true).Live := by decide +kernel
example : ¬ ({ timeout := 1, threaded := false, sel := 0, wait := 0, cleanup := 5 } : Cfg).Live := by decide +kernel

/-- **C20 bound, general form** (both modes, arbitrary positive cadence constants).
Every loop iteration comes at most `D` after the previous one, the first at most `D` after `t0`.
Either the connection is reaped by `t0 + timeout + (period + 1)·D`, or the trace
stops early: each of its iterations is still at least one `D` before that deadline. -/
theorem C20_bound (cfg : Cfg) (hl : cfg.Live) (hT : 0 ≤ cfg.timeout) (D : Int) (hD : 0 ≤ D)
    (s : St) (t0 : Int) (hi : IdleAt s t0) (suf : List Ev)
    (hq : ∀ e ∈ suf, Quiet e) (hp : Paced D t0 suf) :
    (∃ t, (run cfg s suf).status = .reaped t ∧ t ≤ t0 + cfg.timeout + ((period cfg + 1 : Nat) : Int) * D) ∨
    ((run cfg s suf).status = .open ∧
      ∀ t, Ev.loopIter t ∈ suf → t + D ≤ t0 + cfg.timeout + ((period cfg + 1 : Nat) : Int) * D) := by
  rw [succ_mul_cast]
  have hN := natmul_nonneg (period cfg) D hD
  exact (reap_within cfg (period cfg) D t0 _ (C20_due_iff cfg hl) hD suf s t0 (period cfg) hi (Nat.le_add_left _ _)
    (fun _ => Nat.le_refl _) (by omega) (by omega) hq hp).imp id fun h => ⟨h.1, h.2.2⟩

/-- `hrun`: the loop keeps running long enough — some iteration of the trace lies within `D` of the
deadline or beyond it -/
theorem C20_bound_reaped (cfg : Cfg) (hl : cfg.Live) (hT : 0 ≤ cfg.timeout) (D : Int) (hD : 0 ≤ D)
    (s : St) (t0 : Int) (hi : IdleAt s t0) (suf : List Ev)
    (hq : ∀ e ∈ suf, Quiet e) (hp : Paced D t0 suf)
    (hrun : ∃ t, Ev.loopIter t ∈ suf ∧ t0 + cfg.timeout + ((period cfg + 1 : Nat) : Int) * D < t + D) :
    ∃ t, (run cfg s suf).status = .reaped t ∧ t ≤ t0 + cfg.timeout + ((period cfg + 1 : Nat) : Int) * D := by
  rcases C20_bound cfg hl hT D hD s t0 hi suf hq hp with h | ⟨_, h2⟩
  · exact h
  · obtain ⟨t, ht, hlt⟩ := hrun
    exact absurd (h2 t ht) (Int.not_le.2 hlt)

/-- **C20 bound, threadless**: closed no later than `t0 + timeout + (N + 1)·D`,
`N = period cfg = ⌈cleanup / (select + wait)⌉`, after an arbitrary earlier history `pre`. -/
theorem C20_bound_threadless (cfg : Cfg) (hmode : cfg.threaded = false) (hpos : 0 < cfg.sel + cfg.wait)
    (hT : 0 ≤ cfg.timeout) (D : Int) (hD : 0 ≤ D) (start : Int) (pre suf : List Ev)
    (hi : IdleAt (run cfg (init start) pre) t0)
    (hq : ∀ e ∈ suf, Quiet e) (hp : Paced D t0 suf)
    (hrun : ∃ t, Ev.loopIter t ∈ suf ∧ t0 + cfg.timeout + ((period cfg + 1 : Nat) : Int) * D < t + D) :
    ∃ t, (run cfg (init start) (pre ++ suf)).status = .reaped t ∧
      t ≤ t0 + cfg.timeout + ((period cfg + 1 : Nat) : Int) * D := by
  have _ := hmode
  rw [run_append]
  exact C20_bound_reaped cfg (.inr hpos) hT D hD _ t0 hi suf hq hp hrun

theorem C20_bound_threadless_impl (timeout : Int) (hT : 0 ≤ timeout) (D : Int) (hD : 0 ≤ D)
    (start : Int) (pre suf : List Ev)
    (hi : IdleAt (run (implCfg timeout false) (init start) pre) t0)
    (hq : ∀ e ∈ suf, Quiet e) (hp : Paced D t0 suf)
    (hrun : ∃ t, Ev.loopIter t ∈ suf ∧ t0 + timeout + 40 * D < t + D) :
    ∃ t, (run (implCfg timeout false) (init start) (pre ++ suf)).status = .reaped t ∧
      t ≤ t0 + timeout + 40 * D := by
  have hN := C20_period_impl timeout
  have := C20_bound_threadless (t0 := t0) (implCfg timeout false) rfl (by decide : 0 < Px.Gen.selectTimeoutMs + Px.Gen.waitTimeoutMs) hT D hD start pre suf hi hq hp
  rw [hN] at this
  exact this hrun

/-- **C20 bound, threaded**: `run()` checks at the top of every iteration. -/
theorem C20_bound_threaded (cfg : Cfg) (hmode : cfg.threaded = true)
    (hT : 0 ≤ cfg.timeout) (D : Int) (hD : 0 ≤ D) (start : Int) (pre suf : List Ev)
    (hi : IdleAt (run cfg (init start) pre) t0)
    (hq : ∀ e ∈ suf, Quiet e) (hp : Paced D t0 suf)
    (hrun : ∃ t, Ev.loopIter t ∈ suf ∧ t0 + cfg.timeout < t) :
    ∃ t, (run cfg (init start) (pre ++ suf)).status = .reaped t ∧ t ≤ t0 + cfg.timeout + D := by
  rw [run_append]
  have h := C20_bound_reaped cfg (.inl hmode) hT D hD _ t0 hi suf hq hp
  rw [C20_period_threaded cfg hmode, show ((0 + 1 : Nat) : Int) * D = D from Int.one_mul D] at h
  exact h (by obtain ⟨t, ht, hlt⟩ := hrun; exact ⟨t, ht, by omega⟩)

/-- **C20: an empty queued piece is popped** by the first flush whose `send()` returns
(`sent == len(mv)` is `0 == 0`), whatever is queued behind it. -/
theorem C20_empty_piece_popped (maxSend a : Nat) (r : List Nat) :
    flushPieces maxSend (some a) (0 :: r) = r := by
  simp [flushPieces]

theorem C20_counter_is_pieces (cfg : Cfg) (maxSend : Nat) (t0 : Int) (tr : List PEv) :
    (prun cfg maxSend (pinit t0) tr).st.numBuffer = (prun cfg maxSend (pinit t0) tr).pieces.length :=
  pinv_run cfg maxSend tr (pinit t0) (pinv_init t0)

/-- **C20: queued output drains after finitely many writable events**, however the output was cut
into pieces (empty ones included): `weight pieces = Σ (len + 1)` writable reports in each of which
the socket takes at least one byte.  From then on the connection is `IdleAt` its last flush and the
bound theorems apply. -/
theorem C20_empty_piece_drains (cfg : Cfg) (maxSend : Nat) (ws : List (Int × Nat)) :
    ∀ (ps : PSt), PInv ps → ps.st.status = .open → ps.st.readsTorn = false →
    (∀ w ∈ ws, 1 ≤ w.2) → weight ps.pieces ≤ ws.length →
    (prun cfg maxSend ps (ws.map fun w => .clientWrite w.1 (some w.2))).st.status = .open ∧
    (prun cfg maxSend ps (ws.map fun w => .clientWrite w.1 (some w.2))).pieces = [] ∧
    (prun cfg maxSend ps (ws.map fun w => .clientWrite w.1 (some w.2))).st.hasBuffer = false := by
  have key : ∀ (ws : List (Int × Nat)) (ps : PSt), ps.st.status = .open → ps.st.readsTorn = false →
      (prun cfg maxSend ps (ws.map fun w => .clientWrite w.1 (some w.2))).st.status = .open ∧
      (prun cfg maxSend ps (ws.map fun w => .clientWrite w.1 (some w.2))).pieces =
        (ws.map (·.2)).foldl (fun ps a => flushPieces maxSend (some a) ps) ps.pieces := by
    intro ws
    induction ws with
    | nil => intro ps ho _; exact ⟨ho, rfl⟩
    | cons w r ih =>
      intro ps ho hr
      obtain ⟨h1, h2, h3⟩ := pstep_write cfg maxSend ps w.1 (some w.2) ho hr
      have := ih _ h1 h2
      simp only [List.map_cons, prun, List.foldl_cons] at this ⊢
      rw [h3] at this
      exact this
  intro ps hinv ho hr ha hn
  obtain ⟨k1, k2⟩ := key ws ps ho hr
  have hp := k2.trans (flushPieces_drains maxSend (ws.map (·.2)) ps.pieces
    (List.forall_mem_map.2 ha) (by simpa using hn))
  refine ⟨k1, hp, ?_⟩
  have := pinv_run cfg maxSend (ws.map fun w => PEv.clientWrite w.1 (some w.2)) ps hinv
  unfold PInv at this
  rw [hp] at this
  simp [St.hasBuffer, this]

/-- header block, empty body, more output, a trailing empty piece; 4-byte sends: it drains, and
    2049 units after the last flush the threaded loop reaps the connection -/
example : (prun (implCfg 2048 true) 4 (pinit 0)
    ([.upstream 10 [5, 0, 3, 0]] ++ (List.range 5).map (fun (i : Nat) => PEv.clientWrite (20 + Int.ofNat i) (some 100))
      ++ [.loopIter 2072, .loopIter 2073])) =
    { st := { lastActivity := 24, numBuffer := 0, tick := 1, reaperRuns := 2, readsTorn := false,
              status := .reaped 2073 }, pieces := [] } := by decide +kernel
example : weight [5, 0, 3, 0] = 12 := by decide +kernel
/-- had the empty piece not been popped, nothing behind it would ever go out -/
example : flushPieces 4 (some 100) [0, 3] = [3] := by decide +kernel

/-- a session with timeout 2048 units: request bytes at 5200, a response queued by
upstream activity at 5300 and flushed in two writes, then silence -/
def exPre : List Ev :=
  [.loopIter 5100, .clientRead 5200 0, .upstream 5300 2, .loopIter 5310,
   .clientWrite 5400 true, .clientWrite 5500 true]

/-- afterwards: 61 quiet loop iterations 100 units apart, with a spurious writable report -/
def exSuf : List Ev :=
  .clientWrite 5550 false :: .upstream 5560 0 :: (List.range 61).map (fun (i : Nat) => Ev.loopIter (5600 + 100 * Int.ofNat i))

example : Mono 5000 (exPre ++ exSuf) := by decide +kernel
example : IdleAt (run (implCfg 2048 false) (init 5000) exPre) 5500 := by
  constructor <;> decide +kernel
example : ∀ e ∈ exSuf, Quiet e := by decide +kernel
set_option maxRecDepth 8000 in
example : Paced 100 5500 exSuf := by decide +kernel
example : ∃ t, Ev.loopIter t ∈ exSuf ∧ (5500 : Int) + 2048 + 40 * 100 < t + 100 :=
  ⟨11600, by decide +kernel, by decide⟩
set_option maxRecDepth 8000 in
/-- the threadless reaper closes it at 9300 ≤ 5500 + 2048 + 40·100 (the threshold passed at 7548) -/
example : (run (implCfg 2048 false) (init 5000) (exPre ++ exSuf)).status = .reaped 9300 := by decide +kernel
example : (run (implCfg 2048 true) (init 5000) (exPre ++ exSuf)).status = .reaped 7600 := by decide +kernel
example : ∃ t, Ev.loopIter t ∈ exSuf ∧ (5500 : Int) + 2048 < t := ⟨7600, by decide +kernel, by decide⟩
example : ioTimes (implCfg 2048 false) (init 5000) exPre = [5200, 5400, 5500] := by decide +kernel
/-- a read attempt that ends in `ssl.SSLWantReadError` (`clientRead t 0`) or that ends reading while
    output is still pending (`clientReadEnd`) is client-side activity: 2048 later the connection is kept -/
example : (run (implCfg 2048 true) (init 0) [.clientRead 3000 0, .loopIter 5048]).status = .open := by decide +kernel
example : ioTimes (implCfg 2048 true) (init 0) [.upstream 10 1, .clientReadEnd 3000, .clientRead 3001 0] = [3000] := by
  decide +kernel
/-- reads ended and the last chunk flushed: torn down by `handle_events`, not by the reaper -/
example : (run (implCfg 2048 true) (init 0)
    [.upstream 10 1, .clientReadEnd 20, .clientWrite 30 true, .loopIter 99999]).status = .torn 30 := by decide +kernel
/-- pending output blocks the reaper however old the last activity is (threaded mode) -/
example : (run (implCfg 2048 true) (init 0) [.upstream 10 1, .loopIter 100000]).status = .open := by decide +kernel
/-- exactly at the threshold (`now − last_activity = timeout`) the connection stays, one unit later it goes -/
example : (run (implCfg 2048 true) (init 0) [.loopIter 2048]).status = .open := by decide +kernel
example : (run (implCfg 2048 true) (init 0) [.loopIter 2049]).status = .reaped 2049 := by decide +kernel

end Px.Idle

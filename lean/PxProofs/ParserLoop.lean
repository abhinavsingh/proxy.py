import PxProofs.ParserInvariant
/-!
# The HTTP parser's body phase and its loop: every round keeps `Inv`, the fuel never runs out

The body phase in closed form for each framing, and what it does to the invariant
(`processBody_inv`).  Every round of the `parse` loop keeps `Inv`, and a round that does not end
the loop lowers `rank ≤ 5` (`stepOnce_inv`); so the fuel `parse` gives the loop never runs out
(`loop_fuel`), and that loop, `go`, unfolds round by round (`go_unfold`); from a body state it
is a single `processBody` (`go_at_body`).
-/
namespace Px.Parser

theorem processBody_chunked {p : Parser} (h : p.isChunked = true) (u : Bytes) :
    processBody p u = match Px.Chunk.parse (p.chunk.getD Px.Chunk.init) u with
      | .error e => .error (chunkErr e)
      | .ok (c, rest) =>
        .ok (if c.state == .complete then { p with chunk := some c, body := some c.body, state := .complete }
             else { p with chunk := some c }, false, rest) := by
  unfold processBody
  simp only [h, if_true]
  cases Px.Chunk.parse (p.chunk.getD Px.Chunk.init) u with
  | error e => rfl
  | ok r =>
    obtain ⟨c, rest⟩ := r
    rfl

theorem processBody_neither {p : Parser} (hc : p.isChunked = false) (he : p.contentExpected = false)
    (u : Bytes) : processBody p u = .ok ({ p with state := .rcvingBody, body := some u }, false, []) := by
  unfold processBody
  simp only [hc, he, Bool.false_eq_true, if_false]

/-- number of Content-Length body bytes still to come -/
def need (p : Parser) : Nat :=
  match header p (b "content-length") with
  | .ok clv => match pyInt 10 clv with
    | some cl => cl.toNat - (p.body.getD []).length
    | none => 0
  | .error _ => 0

theorem need_spec {p : Parser} (hi : InvCore p) (hnc : p.state ≠ .complete) (he : p.contentExpected = true) :
    ∃ clv cl, header p (b "content-length") = .ok clv ∧ pyInt 10 clv = some cl ∧
      cl = Int.ofNat ((p.body.getD []).length + need p) ∧ 0 < need p := by
  obtain ⟨clv, cl, h1, h2, _⟩ := hi.clOk he
  have hlt := hi.bodyLt hnc he clv cl h1 h2
  have hn : need p = cl.toNat - (p.body.getD []).length := by simp only [need, h1, h2]
  simp only [Int.ofNat_eq_natCast] at hlt hn ⊢
  exact ⟨clv, cl, h1, h2, by omega, by omega⟩

theorem need_append (p : Parser) (st : PState) (x : Bytes) :
    need { p with state := st, body := some (p.body.getD [] ++ x) } = need p - x.length := by
  have hh : header { p with state := st, body := some (p.body.getD [] ++ x) } (b "content-length") =
      header p (b "content-length") := rfl
  unfold need
  rw [hh]
  split
  · split
    · simp only [Option.getD_some, List.length_append, Nat.sub_add_eq]
    · exact (Nat.zero_sub _).symm
  · exact (Nat.zero_sub _).symm

theorem cl_complete_iff (B u : Bytes) (k : Nat) (hk : 0 < k) :
    (!(B ++ u.take k).isEmpty && Int.ofNat (B ++ u.take k).length == Int.ofNat (B.length + k)) =
      decide (k ≤ u.length) := by
  have hl : (B ++ u.take k).length = B.length + min k u.length := by
    simp only [List.length_append, List.length_take]
  have hne : k ≤ u.length → (B ++ u.take k).isEmpty = false := fun h => by
    cases hx : B ++ u.take k with
    | nil => rw [hx, List.length_nil] at hl; omega
    | cons _ _ => rfl
  rw [hl]
  by_cases h : k ≤ u.length
  · simp only [hne h, h, Nat.min_eq_left, Bool.not_false, Bool.true_and, beq_self_eq_true, decide_true]
  · have : (Int.ofNat (B.length + min k u.length) == Int.ofNat (B.length + k)) = false := by
      simp only [Int.ofNat_eq_natCast, beq_eq_false_iff_ne, ne_eq]; omega
    simp only [this, Bool.and_false, h, decide_false]

theorem processBody_cl {p : Parser} (hi : InvCore p) (hnc : p.state ≠ .complete) (hc : p.isChunked = false)
    (he : p.contentExpected = true) (u : Bytes) :
    processBody p u = .ok ({ p with
        state := if need p ≤ u.length then .complete else .rcvingBody,
        body := some (p.body.getD [] ++ u.take (need p)) }, !u.isEmpty, u.drop (need p)) := by
  obtain ⟨clv, cl, h1, h2, h3, h4⟩ := need_spec hi hnc he
  have hn : (cl - Int.ofNat (p.body.getD []).length).toNat = need p := by
    simp only [need, h1, h2, Int.ofNat_eq_natCast, Int.toNat_sub']
  have hge : cl - Int.ofNat (p.body.getD []).length ≥ 0 := by
    simp only [Int.ofNat_eq_natCast] at h3 ⊢; omega
  unfold processBody
  simp only [hc, he, h1, h2, Bool.false_eq_true, if_false, if_true, hge, hn]
  rw [h3, cl_complete_iff _ _ _ h4]
  by_cases hle : need p ≤ u.length <;> simp [hle]

theorem invCore_body {p : Parser} (hi : InvCore p) {st : PState} (hst : 4 ≤ st.num) {bd : Option Bytes}
    {ck : Option Px.Chunk.Chunk} (hck : ∀ c, ck = some c → c.WF)
    (hlt : st ≠ .complete → p.contentExpected = true → ∀ clv cl,
      header p (b "content-length") = .ok clv → pyInt 10 clv = some cl →
      Int.ofNat (bd.getD []).length < cl) :
    InvCore { p with state := st, body := bd, chunk := ck } :=
  ⟨hck, hi.clOk, hlt, fun hn => by simp only at hn; omega, fun hn => by simp only at hn; omega⟩

theorem chunk_getD_wf {p : Parser} (hi : InvCore p) : (p.chunk.getD Px.Chunk.init).WF := by
  cases hc : p.chunk with
  | none => exact Px.Chunk.wf_init
  | some c => exact hi.chunkWF c hc

/-- The loop goes on only after a Content-Length body that is still short, for one more round that
    changes nothing. -/
theorem processBody_inv {p q : Parser} {u r : Bytes} {m : Bool} (hi : Inv p)
    (hst : p.state = .headersComplete ∨ p.state = .rcvingBody) (h : processBody p u = .ok (q, m, r)) :
    Inv q ∧ post (q, m, r) = (q, m, r) ∧ (m = false ∨ q.state = .complete ∨
      (q.state = .rcvingBody ∧ u ≠ [] ∧ r = [] ∧ processBody q [] = .ok (q, false, []))) := by
  obtain ⟨hic, hfr⟩ := hi
  have hnc : p.state ≠ .complete := by rcases hst with h | h <;> simp [h]
  have hnl : p.state ≠ .lineRcvd := by rcases hst with h | h <;> simp [h]
  have h4 : 4 ≤ p.state.num := by rcases hst with h | h <;> simp [h, PState.num]
  -- the body phase writes `state`, `body` and `chunk` only, and `Framed` reads none of them past its premise
  have hF := hfr hst
  by_cases hch : p.isChunked = true
  · rw [processBody_chunked hch] at h
    cases hp : Px.Chunk.parse (p.chunk.getD Px.Chunk.init) u with
    | error e => simp [hp] at h
    | ok t =>
      obtain ⟨c1, rest⟩ := t
      have hwf : ∀ c, some c1 = some c → c.WF := fun c hc =>
        Option.some.inj hc ▸ (Px.Chunk.parse_wf ((chunk_getD_wf hic).live u) hp).1
      by_cases hcc : c1.state = .complete
      · simp only [hp, hcc, beq_self_eq_true, if_true] at h
        cases h
        exact ⟨⟨invCore_body hic (by decide) hwf (fun h => absurd rfl h), fun _ => hF⟩,
          post_id _ _ nofun nofun, .inl rfl⟩
      · have : (c1.state == .complete) = false := by simp [hcc]
        simp only [hp, this, Bool.false_eq_true, if_false] at h
        cases h
        exact ⟨⟨invCore_body (st := p.state) (bd := p.body) hic h4 hwf (hic.bodyLt), fun _ => hF⟩,
          post_id _ _ (fun h => absurd h hnl) (fun _ => by simp [hch]), .inl rfl⟩
  · simp only [Bool.not_eq_true] at hch
    by_cases hce : p.contentExpected = true
    · rw [processBody_cl hic hnc hch hce] at h
      obtain ⟨clv, cl, h1, h2, h3, hpos⟩ := need_spec hic hnc hce
      by_cases hle : need p ≤ u.length
      · rw [if_pos hle] at h
        cases h
        exact ⟨⟨invCore_body hic (by decide) hic.chunkWF (fun h => absurd rfl h), fun _ => hF⟩,
          post_id _ _ nofun nofun, .inr (.inl rfl)⟩
      · have htk : u.take (need p) = u := List.take_of_length_le (by omega)
        have hdk : u.drop (need p) = [] := List.drop_eq_nil_of_le (by omega)
        rw [if_neg hle, htk, hdk] at h
        cases h
        have hi1 : InvCore { p with state := .rcvingBody, body := some (p.body.getD [] ++ u) } := by
          refine invCore_body hic (by decide) hic.chunkWF (fun _ _ clv' cl' h1' h2' => ?_)
          rw [h1] at h1'; cases h1'
          rw [h2] at h2'; cases h2'
          simp only [Option.getD_some, List.length_append, Int.ofNat_eq_natCast] at h3 ⊢
          omega
        refine ⟨⟨hi1, fun _ => hF⟩, post_id _ _ nofun nofun, ?_⟩
        by_cases hu : u = []
        · exact .inl (by simp [hu])
        · refine .inr (.inr ⟨rfl, hu, rfl, ?_⟩)
          have hn1 := need_append p .rcvingBody u
          rw [processBody_cl hi1 (by simp) hch hce, if_neg (by rw [hn1]; simp only [List.length_nil]; omega)]
          simp only [List.take_nil, List.append_nil, List.drop_nil, Option.getD_some, List.isEmpty_nil,
            Bool.not_true]
    · simp only [Bool.not_eq_true] at hce
      rw [processBody_neither hch hce] at h
      cases h
      exact ⟨⟨invCore_body hic (by decide) hic.chunkWF (fun _ h => by simp [hce] at h), fun _ => hF⟩,
        post_id _ _ nofun nofun, .inl rfl⟩

/-- The phases in the order the loop passes through them, counted down; `rcvingBody` counts twice, since a body
round that takes all the input may be followed by one idle round. -/
def rank (p : Parser) (u : Bytes) : Nat :=
  match p.state with
  | .initialized => 5 | .lineRcvd => 4 | .rcvingHeaders => 4 | .headersComplete => 3
  | .rcvingBody => if u.isEmpty then 1 else 2
  | .complete => 0

theorem rank_le (p : Parser) (u : Bytes) : rank p u ≤ 5 := by
  unfold rank; split <;> (try split) <;> omega

/-- `post` completes the message or changes nothing; a finished header block that it leaves alone announces
    a body, or nothing says how long the body is -/
theorem post_cases (t : Parser × Bool × Bytes) :
    (∃ r, post t = ({ t.1 with state := .complete }, t.2.1, r)) ∨
      (post t = t ∧ (t.1.state = .headersComplete → Framed t.1)) := by
  unfold post
  split
  · exact .inl ⟨_, rfl⟩
  · split
    · exact .inl ⟨_, rfl⟩
    · rename_i hc
      refine .inr ⟨rfl, fun hs _ => ?_⟩
      cases hce : t.1.contentExpected with
      | true => exact .inr (.inl rfl)
      | false =>
        cases hch : t.1.isChunked with
        | true => exact .inl rfl
        | false =>
          cases hty : t.1.ty with
          | request => simp [hs, hce, hch, hty] at hc
          | response =>
            cases hh : hasHeader t.1 (b "content-length") with
            | true => simp [hs, hce, hch, hh] at hc
            | false => exact .inr (.inr ⟨rfl, rfl⟩)

theorem post_inv {q1 q : Parser} {m1 m : Bool} {r1 r : Bytes} {n : Nat}
    (h1 : InvCore q1 ∧ (q1.state = .rcvingBody → Framed q1) ∧
      (m1 = false ∨ q1.state = .complete ∨ rank q1 r1 < n))
    (h : post (q1, m1, r1) = (q, m, r)) : Inv q ∧ (m = false ∨ q.state = .complete ∨ rank q r < n) := by
  obtain ⟨hi, hf, hd⟩ := h1
  rcases post_cases (q1, m1, r1) with ⟨_, hp⟩ | ⟨hp, hfr⟩
  · cases hp.symm.trans h
    exact ⟨inv_complete hi, .inr (.inl rfl)⟩
  · cases hp.symm.trans h
    exact ⟨⟨hi, fun hs => hs.elim (fun hs => hfr hs (.inl hs)) (fun hs => hf hs (.inr hs))⟩, hd⟩

theorem stepOnce_inv (cfg : Cfg) {p q : Parser} {u r : Bytes} {m : Bool} (hinv : Inv p)
    (hnc : p.state ≠ .complete) (h : stepOnce cfg p u = .ok (q, m, r)) :
    Inv q ∧ (m = false ∨ q.state = .complete ∨ rank q r < rank p u) := by
  obtain ⟨⟨q1, m1, r1⟩, hc, h⟩ := map_eq_ok (stepOnce_eq cfg p u ▸ h)
  refine post_inv ?_ h.symm
  cases hst : p.state with
  | complete => exact absurd hst hnc
  | initialized =>
    rw [core_line u hst, processLine_eq] at hc
    cases hsp : splitCRLF u with
    | none =>
      rw [hsp] at hc
      cases hc
      exact ⟨hinv.1, fun hh => by simp [hst] at hh, .inl rfl⟩
    | some pr =>
      simp only [hsp] at hc
      obtain ⟨q2, hl, hq⟩ := map_eq_ok hc
      cases hq
      obtain ⟨hs1, hi1, _⟩ := lineStep_inv hinv.1 hst hl
      exact ⟨hi1, fun hh => by simp [hs1] at hh, .inr (.inr (by simp [rank, hs1, hst]))⟩
  | lineRcvd | rcvingHeaders =>
    have hst' : p.state = .lineRcvd ∨ p.state = .rcvingHeaders := by simp [hst]
    rw [core_hdr u hst'] at hc
    obtain ⟨hi1, hc1⟩ := processHeaders_spec _ hst' hinv.1 (by omega) hc
    refine ⟨hi1, fun hh => ?_, ?_⟩
    · rcases hc1 with ⟨h1, _⟩ | ⟨h1 | h1, _⟩ <;> simp [h1] at hh
    · rcases hc1 with ⟨h1, _⟩ | ⟨_, h2, _⟩
      · exact .inr (.inr (by simp [rank, h1, hst]))
      · exact .inl h2
  | headersComplete | rcvingBody =>
    have hst' : p.state = .headersComplete ∨ p.state = .rcvingBody := by simp [hst]
    rw [core_body u hst'] at hc
    obtain ⟨a1, _, a3⟩ := processBody_inv hinv hst' hc
    refine ⟨a1.1, fun _ => a1.2, ?_⟩
    rcases a3 with a3 | a3 | ⟨b1, b2, rfl, _⟩
    · exact .inl a3
    · exact .inr (.inl a3)
    · exact .inr (.inr (by simp [rank, b1, b2, hst]))

theorem post_frame (t : Parser × Bool × Bytes) : Frame t.1 (post t).1 := by
  rcases post_cases t with ⟨_, h⟩ | ⟨h, _⟩
  · rw [h]; exact ⟨_, _, _, _, _, _, rfl⟩
  · rw [h]; exact .refl _

theorem processBody_writes {p q : Parser} {u r : Bytes} {m : Bool} (h : processBody p u = .ok (q, m, r)) :
    ∃ st bd ch, q = { p with state := st, body := bd, chunk := ch } ∧
      (st = p.state ∨ st = .complete ∨ st = .rcvingBody) := by
  by_cases hch : p.isChunked = true
  · rw [processBody_chunked hch] at h
    split at h
    · simp at h
    · cases h
      split
      · exact ⟨_, _, _, rfl, .inr (.inl rfl)⟩
      · exact ⟨_, _, _, rfl, .inl rfl⟩
  · by_cases hce : p.contentExpected = true
    · unfold processBody at h
      rw [if_neg hch, if_pos hce] at h
      dsimp only at h
      split at h
      · simp at h
      · split at h
        · simp at h
        · cases h
          refine ⟨_, _, _, rfl, .inr ?_⟩
          generalize (_ && _) = done
          cases done
          · exact .inr rfl
          · exact .inl rfl
    · rw [processBody_neither (Bool.eq_false_iff.2 hch) (Bool.eq_false_iff.2 hce)] at h
      cases h
      exact ⟨_, _, _, rfl, .inr (.inr rfl)⟩

theorem processBody_frame {p q : Parser} {u r : Bytes} {m : Bool}
    (h : processBody p u = .ok (q, m, r)) : Frame p q := by
  obtain ⟨_, _, _, rfl, _⟩ := processBody_writes h
  exact ⟨_, _, _, _, _, _, rfl⟩

theorem post_started (t : Parser × Bool × Bytes) (hp : t.1.state ≠ .initialized) :
    (post t).1.state ≠ .initialized := by
  rcases post_cases t with ⟨_, h⟩ | ⟨h, _⟩
  · rw [h]; nofun
  · rw [h]; exact hp

theorem processBody_started {p q : Parser} {u r : Bytes} {m : Bool}
    (h : processBody p u = .ok (q, m, r)) (hp : p.state ≠ .initialized) : q.state ≠ .initialized := by
  obtain ⟨_, _, _, rfl, rfl | rfl | rfl⟩ := processBody_writes h
  · exact hp
  · nofun
  · nofun

/-- A loop round is one phase and then `post`.  So what the header step, the body phase and `post`
    keep, the round keeps — counted from the parser after the start line, if the round read one. -/
theorem stepOnce_keeps {R : Parser → Parser → Prop} (refl : ∀ p, R p p)
    (trans : ∀ {a b c}, R a b → R b c → R a c)
    (hdr : ∀ {p q : Parser} {line : Bytes}, hdrStep p line = .ok q → R p q)
    (body : ∀ {p q : Parser} {u r : Bytes} {m : Bool}, processBody p u = .ok (q, m, r) → R p q)
    (hpost : ∀ t, R t.1 (post t).1)
    (cfg : Cfg) {p q : Parser} {u r : Bytes} {m : Bool} (h : stepOnce cfg p u = .ok (q, m, r)) :
    R p q ∨ (p.state = .initialized ∧ ∃ line q1, lineStep cfg p line = .ok q1 ∧ R q1 q) := by
  obtain ⟨t, hc, h⟩ := map_eq_ok (stepOnce_eq cfg p u ▸ h)
  have hpost : R t.1 q := by have := hpost t; rwa [← h] at this
  obtain ⟨q1, m1, r1⟩ := t
  unfold core at hc
  split at hc
  · exact .inl (trans (body hc) hpost)
  · split at hc
    · rename_i hst
      rw [processLine_eq] at hc
      cases hsp : splitCRLF u with
      | none =>
        rw [hsp] at hc
        cases hc
        exact .inl hpost
      | some pr =>
        simp only [hsp] at hc
        obtain ⟨q2, hl, hq⟩ := map_eq_ok hc
        cases hq
        exact .inr ⟨beq_iff_eq.1 hst, _, _, hl, hpost⟩
    · refine .inl (trans ?_ hpost)
      exact processHeaders_ok_ind (fun _ => refl _) (fun _ hh _ => hdr hh) (fun _ hh _ ih => trans (hdr hh) ih)
        (Nat.lt_succ_self _) hc

theorem stepOnce_frame (cfg : Cfg) {p q : Parser} {u r : Bytes} {m : Bool}
    (h : stepOnce cfg p u = .ok (q, m, r)) :
    Frame p q ∨ ∃ line q1, lineStep cfg p line = .ok q1 ∧ Frame q1 q :=
  (stepOnce_keeps Frame.refl Frame.trans hdrStep_frame processBody_frame post_frame cfg h).imp_right And.right

theorem stepOnce_started (cfg : Cfg) {p q : Parser} {u r : Bytes} {m : Bool}
    (h : stepOnce cfg p u = .ok (q, m, r)) (hp : p.state ≠ .initialized) :
    Frame p q ∧ q.state ≠ .initialized :=
  (stepOnce_keeps (R := fun p q => Frame p q ∧ (p.state ≠ .initialized → q.state ≠ .initialized))
    (fun p => ⟨.refl p, id⟩) (fun a b => ⟨a.1.trans b.1, b.2 ∘ a.2⟩)
    (fun h => ⟨hdrStep_frame h, hdrStep_started h⟩) (fun h => ⟨processBody_frame h, processBody_started h⟩)
    (fun t => ⟨post_frame t, post_started t⟩) cfg h).elim (fun a => ⟨a.1, a.2 hp⟩) (fun a => absurd a.1 hp)

theorem loop_done (cfg : Cfg) {p : Parser} {more : Bool} (u : Bytes)
    (h : more = false ∨ p.state = .complete) (f : Nat) : loop cfg f p more u = .ok (p, u) := by
  cases f with
  | zero => rfl
  | succ f =>
    rw [loop]
    rcases h with h | h <;> simp [h]

theorem loop_succ (cfg : Cfg) {p : Parser} (u : Bytes) (hc : p.state ≠ .complete) (f : Nat) :
    loop cfg (f + 1) p true u = match stepOnce cfg p u with
      | .error e => .error e
      | .ok (q, m, r) => loop cfg f q m r := by
  rw [loop]
  have : (!true || p.state == .complete) = false := by simp [hc]
  simp only [this, Bool.false_eq_true, if_false]
  cases stepOnce cfg p u with
  | error e => rfl
  | ok t => rfl

theorem loop_preserves (cfg : Cfg) {I : Parser → Prop}
    (step : ∀ {p q : Parser} {u r : Bytes} {m : Bool}, I p → p.state ≠ .complete →
      stepOnce cfg p u = .ok (q, m, r) → I q)
    (f : Nat) {p q : Parser} {more : Bool} {u r : Bytes} (hi : I p)
    (h : loop cfg f p more u = .ok (q, r)) : I q := by
  induction f generalizing p more u with
  | zero => cases h; exact hi
  | succ f ih =>
    by_cases hd : more = false ∨ p.state = .complete
    · rw [loop_done cfg u hd] at h
      cases h; exact hi
    · rw [not_or, Bool.not_eq_false] at hd
      obtain ⟨rfl, hc⟩ := hd
      rw [loop_succ cfg u hc] at h
      cases hs : stepOnce cfg p u with
      | error e => simp [hs] at h
      | ok t =>
        rw [hs] at h
        exact ih (step hi hc hs) h

theorem loop_started (cfg : Cfg) (f : Nat) {p q : Parser} {more : Bool} {u r : Bytes}
    (h : loop cfg f p more u = .ok (q, r)) (hp : p.state ≠ .initialized) :
    Frame p q ∧ q.state ≠ .initialized :=
  loop_preserves cfg (I := fun q => Frame p q ∧ q.state ≠ .initialized)
    (fun hi _ hs => (stepOnce_started cfg hs hi.2).imp_left hi.1.trans) f ⟨.refl p, hp⟩ h

/-- `hset`: `parse` rewrites the byte counter and the buffer around the loop -/
theorem parse_preserves (cfg : Cfg) {I : Parser → Prop} (hset : ∀ t bf p, I p → I (setTB t bf p))
    (step : ∀ {p q : Parser} {u r : Bytes} {m : Bool}, I p → p.state ≠ .complete →
      stepOnce cfg p u = .ok (q, m, r) → I q)
    {p q : Parser} {x : Bytes} (hi : I p) (h : parse cfg p x = .ok q) : I q := by
  obtain ⟨R, hl, rfl⟩ := map_eq_ok (parse_eq cfg p x ▸ h)
  exact hset R.1.totalSize _ _ (loop_preserves cfg step _ (hset (p.totalSize + x.length) none p hi) hl)

theorem parseAll_preserves (cfg : Cfg) {I : Parser → Prop}
    (step : ∀ {p q : Parser} {x : Bytes}, I p → parse cfg p x = .ok q → I q)
    {p q : Parser} {segs : List Bytes} (hi : I p) (h : parseAll cfg p segs = .ok q) : I q := by
  induction segs generalizing p with
  | nil => cases h; exact hi
  | cons x xs ih =>
    rw [parseAll] at h
    cases hp : parse cfg p x with
    | error e => simp [hp] at h
    | ok p1 =>
      rw [hp] at h
      exact ih (step hi hp) h

theorem loop_fuel (cfg : Cfg) (f1 f2 : Nat) {p : Parser} {u : Bytes} (hi : Inv p)
    (h1 : rank p u < f1) (h2 : rank p u < f2) : loop cfg f1 p true u = loop cfg f2 p true u := by
  induction f1 generalizing f2 p u with
  | zero => omega
  | succ f1 ih =>
    cases f2 with
    | zero => omega
    | succ f2 =>
      by_cases hc : p.state = .complete
      · rw [loop_done cfg u (.inr hc), loop_done cfg u (.inr hc)]
      · rw [loop_succ cfg u hc, loop_succ cfg u hc]
        cases hs : stepOnce cfg p u with
        | error e => rfl
        | ok t =>
          obtain ⟨q, m, r⟩ := t
          obtain ⟨hq, hd⟩ := stepOnce_inv cfg hi hc hs
          simp only
          by_cases hm : m = false ∨ q.state = .complete
          · rw [loop_done cfg r hm, loop_done cfg r hm]
          · rw [not_or, Bool.not_eq_false] at hm
            obtain ⟨rfl, hq2⟩ := hm
            have : rank q r < rank p u := by simpa [hq2] using hd
            exact ih f2 hq (by omega) (by omega)

/-- the `parse` loop on unread input `u`, started with `more = True` -/
def go (cfg : Cfg) (p : Parser) (u : Bytes) : Except Err (Parser × Bytes) :=
  loop cfg (u.length + 8) p true u

theorem go_done (cfg : Cfg) {p : Parser} (u : Bytes) (h : p.state = .complete) : go cfg p u = .ok (p, u) :=
  loop_done cfg u (.inr h) _

/-- continue after one round, with the fuel the next `parse` call would give -/
def next (cfg : Cfg) (t : Parser × Bool × Bytes) : Except Err (Parser × Bytes) :=
  loop cfg (t.2.2.length + 8) t.1 t.2.1 t.2.2

theorem next_stop (cfg : Cfg) {q : Parser} {m : Bool} (r : Bytes) (h : m = false ∨ q.state = .complete) :
    next cfg (q, m, r) = .ok (q, r) :=
  loop_done cfg r h _

theorem next_go (cfg : Cfg) (q : Parser) (r : Bytes) : next cfg (q, true, r) = go cfg q r := rfl

/-- after a round the fuel left over is as good as fresh fuel: at most `rank ≤ 5` rounds follow -/
theorem go_unfold (cfg : Cfg) {p : Parser} (u : Bytes) (hi : Inv p) (hc : p.state ≠ .complete) :
    go cfg p u = match stepOnce cfg p u with
      | .error e => .error e
      | .ok t => next cfg t := by
  unfold go
  rw [loop_succ cfg u hc]
  cases hs : stepOnce cfg p u with
  | error e => rfl
  | ok t =>
    obtain ⟨q, m, r⟩ := t
    have := rank_le q r
    cases m with
    | false => exact (loop_done cfg r (.inl rfl) _).trans (loop_done cfg r (.inl rfl) _).symm
    | true => exact loop_fuel cfg _ _ (stepOnce_inv cfg hi hc hs).1 (by omega) (by omega)

theorem go_at_start (cfg : Cfg) {P : Parser} (x : Bytes) (hi : Inv P) (hst : P.state = .initialized) :
    go cfg P x = match (match splitCRLF x with
        | none => Except.ok (P, false, x)
        | some (line, rest) => (lineStep cfg P line).map (fun q => (q, !rest.isEmpty, rest))).map post with
      | .error e => .error e
      | .ok t => next cfg t := by
  rw [go_unfold cfg x hi (by simp [hst]), stepOnce_eq, core_line x hst, processLine_eq]
  rfl

theorem go_at_hdr (cfg : Cfg) {P : Parser} (x : Bytes) (hi : Inv P)
    (hst : P.state = .lineRcvd ∨ P.state = .rcvingHeaders) :
    go cfg P x = match (processHeaders (x.length + 1) P x).map post with
      | .error e => .error e
      | .ok t => next cfg t := by
  rw [go_unfold cfg x hi (by rcases hst with h | h <;> simp [h]), stepOnce_eq, core_hdr x hst]

/-- from a body state the loop is a single `processBody`: the possible second round is idle -/
theorem go_at_body (cfg : Cfg) {P : Parser} (u : Bytes) (hi : Inv P)
    (hst : P.state = .headersComplete ∨ P.state = .rcvingBody) :
    go cfg P u = (processBody P u).map (fun t => (t.1, t.2.2)) := by
  have hnc : P.state ≠ .complete := by rcases hst with h | h <;> simp [h]
  rw [go_unfold cfg u hi hnc, stepOnce_eq, core_body u hst]
  cases hp : processBody P u with
  | error e => rfl
  | ok t =>
    obtain ⟨q, m, r⟩ := t
    obtain ⟨hq, hpost, hd⟩ := processBody_inv hi hst hp
    simp only [Except.map, hpost]
    rcases hd with hd | hd | ⟨h1, _, rfl, hidle⟩
    · exact next_stop cfg r (.inl hd)
    · exact next_stop cfg r (.inr hd)
    · cases m with
      | false => exact next_stop cfg _ (.inl rfl)
      | true =>
        rw [next_go, go_unfold cfg _ hq (by simp [h1]), stepOnce_eq, core_body _ (.inr h1), hidle]
        simp only [Except.map]
        rw [(processBody_inv hq (.inr h1) hidle).2.1, next_stop cfg _ (.inl rfl)]
end Px.Parser

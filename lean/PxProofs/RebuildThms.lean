import PxProofs.Rebuild
/-!
# What `HttpParser.build()` / `build_response()` write, and reading it back (C15)

What `build()` writes for a message in the guard `ReqGuard`, in general and in each of the three framings, and that
it is read back (`ReqGuard.pkt`); the same for `build_response()` and `ResGuard`.  On a message whose headers
already say exactly how its body is framed, rebuild → reparse gives the same header map back.
-/
namespace Px.Codec

open Px.Parser Px.Build
open Px.Url (Url)

def hdrPairs (p : Parser) : HDict := namesOf (p.headers.getD [])

theorem defaultDisable_nil : Px.Gen.defaultDisableHeaders = [] := rfl

theorem build_headers_eq (p : Parser) (hi : hdrInvB (p.headers.getD []) = true) :
    (match p.headers with
      | some h => if h.isEmpty then [] else rebuildHeaders h ((none : Option (List Bytes)).getD Px.Gen.defaultDisableHeaders) none
      | none => []) = hdrPairs p := by
  unfold hdrPairs
  rcases hh : p.headers with _ | _ | ⟨a, t⟩
  · rfl
  · rfl
  · rw [hh] at hi
    exact rebuildHeaders_eq (a :: t) hi

theorem resp_headers_eq (p : Parser) (hi : hdrInvB (p.headers.getD []) = true) :
    (match p.headers with
      | some h => if h.isEmpty then [] else
          h.foldl (fun acc (x : Bytes × Bytes × Bytes) => match x with | (_, name, value) => dSet acc name value) []
      | none => []) = hdrPairs p := by
  unfold hdrPairs
  rcases hh : p.headers with _ | _ | ⟨a, t⟩
  · rfl
  · rfl
  · rw [hh] at hi
    -- the dict comprehension of `build_response()` is that of `build()` with nothing disabled
    exact rebuildHeaders_eq (a :: t) hi

theorem bodyOrChunks_plain (bufSize : Nat) {p : Parser} (hch : p.isChunked = false) :
    bodyOrChunks bufSize p = .ok p.body := by
  unfold bodyOrChunks
  rw [hch]
  cases p.body <;> rfl

theorem bodyOrChunks_chunked {bufSize : Nat} {p : Parser} {bd enc : Bytes} (hch : p.isChunked = true)
    (hb : p.body = some bd) (henc : Px.Chunk.toChunks bd bufSize = .ok enc) :
    bodyOrChunks bufSize p = .ok (some enc) := by
  simp only [bodyOrChunks, hb, hch, henc, ↓reduceIte]

theorem wfHeaders_dSet_cl {L : HDict} {v : Bytes} (hL : wfHeaders L = true) (hv : wfValue v = true) :
    wfHeaders (dSet L nCL v) = true :=
  List.all_eq_true.2 (forall_mem_dSet (List.all_eq_true.1 hL) (by rw [wfName_nCL, hv]; rfl))

theorem dSet_cl_noTE {L : HDict} (v : Bytes) (hte : ∀ e ∈ L, lower e.1 ≠ kTE) :
    (dSet L nCL v).any isTEChunked = false :=
  List.any_eq_false.2 (forall_mem_dSet (fun e he => isTEChunked_false_of (hte e he) ▸ Bool.false_ne_true)
    (isTEChunked_false_of (e := (nCL, v)) nCL_not_te ▸ Bool.false_ne_true))

theorem framing_dSet_cl {L : HDict} {bd : Bytes} (hte : ∀ e ∈ L, lower e.1 ≠ kTE)
    (hcl : ∀ e ∈ L, isCL e = true → pyInt 10 e.2 = some (Int.ofNat bd.length))
    (hlen : bd.length < 10 ^ intMaxStrDigits) (hne : bd ≠ []) :
    Framing (dSet L nCL (natToDec bd.length)) bd (some bd) false :=
  .cl (dSet_cl_noTE _ hte) (forall_mem_dSet hcl (fun _ => pyInt10_natToDec _ hlen))
    ⟨_, mem_dSet_self _ _ _, isCL_nCL _⟩ hne

theorem framing_chunked {L : HDict} (bd : Bytes) {bufSize : Nat} (hbs : bufSize ≠ 0) {t : Bytes × Bytes}
    (ht : t ∈ L) (htc : isTEChunked t = true) (hcl : clValuesOK L) :
    ∃ enc, Px.Chunk.toChunks bd bufSize = .ok enc ∧ Framing L enc (some bd) true := by
  obtain ⟨hsv, hsd, hsr⟩ := toChunks_in_grammar bd bufSize hbs
  have fr := Framing.chunked (List.any_eq_true.2 ⟨t, ht, htc⟩) hcl hsv
  rw [hsd] at fr
  exact ⟨_, hsr, fr⟩

/-- common guard of the request rebuild theorems -/
structure ReqGuard (p : Parser) (meth ver : Bytes) : Prop where
  ty : p.ty = .request
  method : p.method = some meth
  version : p.version = some ver
  methodTok : plainTok meth = true
  versionTok : plainTok ver = true
  pathTok : plainTok (pathOf p) = true
  pathOrigin : originPath (pathOf p) = true
  hdrs : hdrInvB (p.headers.getD []) = true

theorem build_eq (bufSize : Nat) {p : Parser} {meth ver : Bytes} (g : ReqGuard p meth ver) :
    Px.Build.build bufSize Px.Gen.defaultDisableHeaders p none none =
      match bodyOrChunks bufSize p with
      | .error e => .error e
      | .ok body => .ok (buildRequest [] meth (pathOf p) ver none (hdrPairs p) body false true) := by
  unfold Px.Build.build
  simp only [g.method, g.version, g.ty, List.isEmpty_eq_false_iff.2 (plainTok_spec g.methodTok).1,
    List.isEmpty_eq_false_iff.2 (plainTok_spec g.versionTok).1, Bool.not_false, beq_self_eq_true, Bool.and_self,
    Bool.not_true, Bool.false_eq_true, if_false, Option.getD_some]
  rw [← build_headers_eq p g.hdrs]
  rfl

theorem reqHeaders_rebuild (ua : Bytes) (L : HDict) (body : Option Bytes) :
    reqHeaders ua none L body false true =
      if bodyTruthy body && !hasKey kTE L then dSet L nCL (natToDec (body.getD []).length) else L := by
  simp [reqHeaders, pktHeaders, reqH3, reqH2, reqH1]

theorem build_req_pkt (bufSize : Nat) {p : Parser} {meth ver : Bytes} (g : ReqGuard p meth ver)
    {body : Option Bytes} (hbc : bodyOrChunks bufSize p = .ok body) :
    Px.Build.build bufSize Px.Gen.defaultDisableHeaders p none none =
      .ok (meth ++ SP :: (pathOf p ++ SP :: ver) ++ CRLF ++
        (renderHdrs (if bodyTruthy body && !hasKey kTE (hdrPairs p)
            then dSet (hdrPairs p) nCL (natToDec (body.getD []).length) else hdrPairs p) ++ CRLF ++ body.getD [])) := by
  rw [build_eq bufSize g, hbc, ← reqHeaders_rebuild [], ← buildRequest_eq]

section framings
variable (bufSize : Nat) {p : Parser} {meth ver : Bytes} (g : ReqGuard p meth ver)
include g

theorem build_req_pkt_nobody (hch : p.isChunked = false) (hb : bodyTruthy p.body = false) :
    Px.Build.build bufSize Px.Gen.defaultDisableHeaders p none none =
      .ok (meth ++ SP :: (pathOf p ++ SP :: ver) ++ CRLF ++ (renderHdrs (hdrPairs p) ++ CRLF ++ [])) := by
  rw [build_req_pkt bufSize g (bodyOrChunks_plain bufSize hch), hb, Bool.false_and, if_neg Bool.false_ne_true,
    bodyTruthy_false_getD hb]

theorem build_req_pkt_cl (hch : p.isChunked = false) (hb : bodyTruthy p.body = true)
    (hte : ∀ e ∈ hdrPairs p, lower e.1 ≠ kTE) :
    Px.Build.build bufSize Px.Gen.defaultDisableHeaders p none none =
      .ok (meth ++ SP :: (pathOf p ++ SP :: ver) ++ CRLF ++
        (renderHdrs (dSet (hdrPairs p) nCL (natToDec (p.body.getD []).length)) ++ CRLF ++ p.body.getD [])) := by
  rw [build_req_pkt bufSize g (bodyOrChunks_plain bufSize hch), hb, hasKey_false hte, Bool.not_false, Bool.and_self,
    if_pos rfl]

theorem build_req_pkt_chunked {bd enc : Bytes} (hch : p.isChunked = true) (hb : p.body = some bd)
    (henc : Px.Chunk.toChunks bd bufSize = .ok enc) {t : Bytes × Bytes} (ht : t ∈ hdrPairs p)
    (htc : isTEChunked t = true) :
    Px.Build.build bufSize Px.Gen.defaultDisableHeaders p none none =
      .ok (meth ++ SP :: (pathOf p ++ SP :: ver) ++ CRLF ++ (renderHdrs (hdrPairs p) ++ CRLF ++ enc)) := by
  have hkey : hasKey kTE (hdrPairs p) = true :=
    List.any_eq_true.2 ⟨t, ht, by rw [isTEChunked_key htc]; exact bytes_beq_self _⟩
  rw [build_req_pkt bufSize g (bodyOrChunks_chunked hch hb henc), hkey, Bool.not_true, Bool.and_false,
    if_neg Bool.false_ne_true]
  rfl

end framings

theorem ReqGuard.pkt {p : Parser} {meth ver : Bytes} (g : ReqGuard p meth ver) (cfg : Cfg) {H : HDict} {B : Bytes}
    {body : Option Bytes} {ch : Bool} (hH : wfHeaders H = true) (fr : Framing H B body ch) :
    ∃ r, parse cfg (init .request)
        (meth ++ SP :: (pathOf p ++ SP :: ver) ++ CRLF ++ (renderHdrs H ++ CRLF ++ B)) = .ok r ∧
      ReqResult r meth ver { remainder := some (pathOf p) } H body ch :=
  req_pkt cfg g.methodTok g.pathTok g.versionTok (fromBytes_origin _ _ g.pathOrigin) hH fr

/-- common guard of the response rebuild theorems: `code` is the canonical decimal text of `n`
    (`build_response` re-renders `int(self.code)`) -/
structure ResGuard (p : Parser) (ver code : Bytes) (n : Int) : Prop where
  tyEq : p.ty = .response
  versionEq : p.version = some ver
  codeEq : p.code = some code
  versionTok : plainTok ver = true
  codeNe : code ≠ []
  codeInt : pyInt 10 code = some n
  codeCanon : intToDec n = code
  reason : reasonOK p.reason = true
  hdrs : hdrInvB (p.headers.getD []) = true

theorem buildResponseOf_eq (bufSize : Nat) (p : Parser) (ver code : Bytes) (n : Int) (g : ResGuard p ver code n) :
    buildResponseOf bufSize p =
      match bodyOrChunks bufSize p with
      | .error e => .error e
      | .ok body => .ok (buildResponse n ver p.reason (hdrPairs p) body false false) := by
  unfold buildResponseOf
  simp only [g.codeEq, g.versionEq, g.tyEq, List.isEmpty_eq_false_iff.2 g.codeNe,
    List.isEmpty_eq_false_iff.2 (plainTok_spec g.versionTok).1, Bool.not_false, beq_self_eq_true, Bool.and_self,
    Bool.not_true, Bool.false_eq_true, if_false, Option.getD_some, g.codeInt]
  rw [← resp_headers_eq p g.hdrs]
  rfl

theorem resHeaders_rebuild (L : HDict) (body : Option Bytes) :
    resHeaders L body false false =
      if !hasKey kTE L then dSet L nCL (if bodyTruthy body then natToDec (body.getD []).length else [48]) else L := by
  simp [resHeaders, pktHeaders]

theorem build_resp_pkt (bufSize : Nat) {p : Parser} {ver code : Bytes} {n : Int} (g : ResGuard p ver code n)
    {body : Option Bytes} (hbc : bodyOrChunks bufSize p = .ok body) :
    buildResponseOf bufSize p =
      .ok (statusLine n ver p.reason ++ CRLF ++
        (renderHdrs (if !hasKey kTE (hdrPairs p)
            then dSet (hdrPairs p) nCL (if bodyTruthy body then natToDec (body.getD []).length else [48])
            else hdrPairs p) ++ CRLF ++ body.getD [])) := by
  rw [buildResponseOf_eq bufSize p ver code n g, hbc, ← resHeaders_rebuild, ← buildResponse_eq]

section framings
variable (bufSize : Nat) {p : Parser} {ver code : Bytes} {n : Int} (g : ResGuard p ver code n)
include g

theorem build_resp_pkt_nobody (hch : p.isChunked = false) (hb : bodyTruthy p.body = false)
    (hte : ∀ e ∈ hdrPairs p, lower e.1 ≠ kTE) :
    buildResponseOf bufSize p =
      .ok (statusLine n ver p.reason ++ CRLF ++ (renderHdrs (dSet (hdrPairs p) nCL [48]) ++ CRLF ++ [])) := by
  rw [build_resp_pkt bufSize g (bodyOrChunks_plain bufSize hch), hasKey_false hte, Bool.not_false, if_pos rfl, hb,
    if_neg Bool.false_ne_true, bodyTruthy_false_getD hb]

theorem build_resp_pkt_cl (hch : p.isChunked = false) (hb : bodyTruthy p.body = true)
    (hte : ∀ e ∈ hdrPairs p, lower e.1 ≠ kTE) :
    buildResponseOf bufSize p =
      .ok (statusLine n ver p.reason ++ CRLF ++
        (renderHdrs (dSet (hdrPairs p) nCL (natToDec (p.body.getD []).length)) ++ CRLF ++ p.body.getD [])) := by
  rw [build_resp_pkt bufSize g (bodyOrChunks_plain bufSize hch), hasKey_false hte, Bool.not_false, if_pos rfl, hb,
    if_pos rfl]

theorem build_resp_pkt_chunked {bd enc : Bytes} (hch : p.isChunked = true) (hb : p.body = some bd)
    (henc : Px.Chunk.toChunks bd bufSize = .ok enc) {t : Bytes × Bytes} (ht : t ∈ hdrPairs p)
    (htc : isTEChunked t = true) :
    buildResponseOf bufSize p =
      .ok (statusLine n ver p.reason ++ CRLF ++ (renderHdrs (hdrPairs p) ++ CRLF ++ enc)) := by
  have hkey : hasKey kTE (hdrPairs p) = true :=
    List.any_eq_true.2 ⟨t, ht, by rw [isTEChunked_key htc]; exact bytes_beq_self _⟩
  rw [build_resp_pkt bufSize g (bodyOrChunks_chunked hch hb henc), hkey, Bool.not_true, if_neg Bool.false_ne_true]
  rfl

end framings

theorem ResGuard.pkt {p : Parser} {ver code : Bytes} {n : Int} (g : ResGuard p ver code n) (cfg : Cfg) {H : HDict}
    {B : Bytes} {body : Option Bytes} {ch : Bool} (hH : wfHeaders H = true) (fr : Framing H B body ch) :
    ∃ r, parse cfg (init .response) (statusLine n ver p.reason ++ CRLF ++ (renderHdrs H ++ CRLF ++ B)) = .ok r ∧
      ResResult r ver code (reasonSeen p.reason) H body ch :=
  g.codeCanon ▸ res_pkt cfg n p.reason g.versionTok g.reason hH fr

/-- a header list that announces `bd` by exactly one `Content-Length`, spelled as the builders spell it,
    and has no `transfer-encoding`: rebuilding writes the same list again -/
structure ExactCL (L : HDict) (bd : Bytes) : Prop where
  noTE : ∀ e ∈ L, lower e.1 ≠ kTE
  cl : ∀ e ∈ L, isCL e = true → e = (nCL, natToDec bd.length)
  mem : (nCL, natToDec bd.length) ∈ L

theorem ExactCL.dSet_same {L : HDict} {bd : Bytes} (hx : ExactCL L bd) : dSet L nCL (natToDec bd.length) = L :=
  dSet_eq_self _ _ _ hx.mem (fun e he hk => hx.cl e he (bytes_beq.2 (by rw [hk]; exact lower_nCL)))

theorem ExactCL.framing {L : HDict} {bd : Bytes} (hx : ExactCL L bd) (hlen : bd.length < 10 ^ intMaxStrDigits) :
    Framing L bd (if bd = [] then none else some bd) false := by
  have hte : L.any isTEChunked = false :=
    List.any_eq_false.2 (fun e he => isTEChunked_false_of (hx.noTE e he) ▸ Bool.false_ne_true)
  have hcl : ∀ e ∈ L, isCL e = true → pyInt 10 e.2 = some (Int.ofNat bd.length) :=
    fun e he hc => by rw [hx.cl e he hc]; exact pyInt10_natToDec _ hlen
  have := framing_of_body (body := some bd) hte hcl (fun _ => ⟨_, hx.mem, isCL_nCL _⟩)
  cases bd with
  | nil => exact this
  | cons _ _ => exact this

theorem hdrPairs_of {q : Parser} {H : Headers} (hh : q.headers = some H) : hdrPairs q = namesOf H := by
  rw [hdrPairs, hh]; rfl

/-- a parser whose non-empty header map satisfies the guard reads its own header list back as that map -/
theorem hdrsOf_hdrPairs {q : Parser} {H : Headers} (hh : q.headers = some H) (hi : hdrInvB (q.headers.getD []) = true)
    {e : Bytes × Bytes} (he : e ∈ namesOf H) : hdrsOf (hdrPairs q) = some H := by
  rw [hh] at hi
  rw [hdrPairs_of hh]
  exact hdrsOf_namesOf H hi (fun h => List.ne_nil_of_mem he (h ▸ rfl))

/-- the guards of the rebuild theorems do not look at the body, and at the header map only through `hdrInvB` -/
theorem ReqGuard.withHeaders {p : Parser} {meth ver : Bytes} (g : ReqGuard p meth ver) {H : Headers}
    (hi : hdrInvB H = true) (bo : Option Bytes) : ReqGuard { p with headers := some H, body := bo } meth ver :=
  ⟨g.ty, g.method, g.version, g.methodTok, g.versionTok, g.pathTok, g.pathOrigin, hi⟩

theorem ResGuard.withHeaders {p : Parser} {ver code : Bytes} {n : Int} (g : ResGuard p ver code n) {H : Headers}
    (hi : hdrInvB H = true) (bo : Option Bytes) : ResGuard { p with headers := some H, body := bo } ver code n :=
  ⟨g.tyEq, g.versionEq, g.codeEq, g.versionTok, g.codeNe, g.codeInt, g.codeCanon, g.reason, hi⟩

section same
variable (cfg : Cfg) (bufSize : Nat) (q : Parser) {H : Headers} {bd : Bytes} (hh : q.headers = some H)
  (hb : q.body = some bd)

section exact
variable (hch : q.isChunked = false) (hx : ExactCL (namesOf H) bd) (hlen : bd.length < 10 ^ intMaxStrDigits)
include hh hb hch hx hlen

/-- an empty body is read back as `None` -/
theorem build_parse_req_exact (meth ver : Bytes) (g : ReqGuard q meth ver) :
    ∃ raw r, Px.Build.build bufSize Px.Gen.defaultDisableHeaders q none none = .ok raw ∧
      parse cfg (init .request) raw = .ok r ∧ r.headers = some H ∧
      ReqResult r meth ver { remainder := some (pathOf q) } (hdrPairs q) (if bd = [] then none else some bd) false := by
  have hhd := hdrsOf_hdrPairs hh g.hdrs hx.mem
  rw [← hdrPairs_of hh] at hx
  have hpkt := build_req_pkt bufSize g (bodyOrChunks_plain bufSize hch)
  rw [hb, Option.getD_some, hx.dSet_same, ite_self] at hpkt
  obtain ⟨r, h1, h2⟩ := g.pkt cfg (wfHeaders_namesOf g.hdrs) (hx.framing hlen)
  exact ⟨_, r, hpkt, h1, h2.headers_eq.trans hhd, h2⟩

theorem build_parse_resp_exact (ver code : Bytes) (n : Int) (g : ResGuard q ver code n) :
    ∃ raw r, buildResponseOf bufSize q = .ok raw ∧
      parse cfg (init .response) raw = .ok r ∧ r.headers = some H ∧
      ResResult r ver code (reasonSeen q.reason) (hdrPairs q) (if bd = [] then none else some bd) false := by
  have hhd := hdrsOf_hdrPairs hh g.hdrs hx.mem
  rw [← hdrPairs_of hh] at hx
  have hpkt := build_resp_pkt bufSize g (bodyOrChunks_plain bufSize hch)
  rw [hb, hasKey_false hx.noTE, Bool.not_false, if_pos rfl, resp_cl_value, Option.getD_some, hx.dSet_same] at hpkt
  obtain ⟨r, h1, h2⟩ := g.pkt cfg (wfHeaders_namesOf g.hdrs) (hx.framing hlen)
  exact ⟨_, r, hpkt, h1, h2.headers_eq.trans hhd, h2⟩

end exact

section chunked
variable (hbs : bufSize ≠ 0) (hch : q.isChunked = true)
  (hte : ∃ e ∈ namesOf H, isTEChunked e = true) (hcl : ∀ e ∈ namesOf H, isCL e = false)
include hh hb hbs hch hte hcl

theorem build_parse_req_chunked_same (meth ver : Bytes) (g : ReqGuard q meth ver) :
    ∃ raw r, Px.Build.build bufSize Px.Gen.defaultDisableHeaders q none none = .ok raw ∧
      parse cfg (init .request) raw = .ok r ∧ r.headers = some H ∧
      ReqResult r meth ver { remainder := some (pathOf q) } (hdrPairs q) (some bd) true := by
  obtain ⟨t, ht, htc⟩ := hte
  have hhd := hdrsOf_hdrPairs hh g.hdrs ht
  rw [← hdrPairs_of hh] at ht hcl
  obtain ⟨enc, henc, fr⟩ := framing_chunked bd hbs ht htc (fun e he hc => absurd hc (hcl e he ▸ Bool.false_ne_true))
  obtain ⟨r, h1, h2⟩ := g.pkt cfg (wfHeaders_namesOf g.hdrs) fr
  exact ⟨_, r, build_req_pkt_chunked bufSize g hch hb henc ht htc, h1, h2.headers_eq.trans hhd, h2⟩

theorem build_parse_resp_chunked_same (ver code : Bytes) (n : Int) (g : ResGuard q ver code n) :
    ∃ raw r, buildResponseOf bufSize q = .ok raw ∧
      parse cfg (init .response) raw = .ok r ∧ r.headers = some H ∧
      ResResult r ver code (reasonSeen q.reason) (hdrPairs q) (some bd) true := by
  obtain ⟨t, ht, htc⟩ := hte
  have hhd := hdrsOf_hdrPairs hh g.hdrs ht
  rw [← hdrPairs_of hh] at ht hcl
  obtain ⟨enc, henc, fr⟩ := framing_chunked bd hbs ht htc (fun e he hc => absurd hc (hcl e he ▸ Bool.false_ne_true))
  obtain ⟨r, h1, h2⟩ := g.pkt cfg (wfHeaders_namesOf g.hdrs) fr
  exact ⟨_, r, build_resp_pkt_chunked bufSize g hch hb henc ht htc, h1, h2.headers_eq.trans hhd, h2⟩

end chunked
end same

end Px.Codec

import PxModel.PluginChain
import PxProofs.ChainLemmas
import PxProofs.C08
/-!
# C09 — plugins run in configured order with the documented chaining semantics

The model (`PxModel/PluginChain.lean`) is tied to `proxy/http/proxy/server.py`,
`proxy/http/proxy/plugin.py`, `proxy/http/handler.py`,
`proxy/http/exception/http_request_rejected.py`, `proxy/common/flag.py` and
`proxy/common/plugins.py` by the correspondence check `harness/c09.py`.

Every hook chain of `server.py` is the one function `chain`, instantiated with
the hook (`before_upstream_connection`, `handle_client_request` for first and
follow-up requests, `handle_client_data`, `handle_upstream_chunk`,
`on_access_log`); plugins are arbitrary total functions, the plugin list, the
request and the event sequence are arbitrary.

`inputs f ps x` is the list of values handed to the plugins (ChainLemmas): the
chain's log is exactly one call per element of it, at consecutive positions.

Readings fixed here.
* A plugin raising in `handle_client_request` of the *first* request rejects it
  after `connect_upstream()` ran (that is the order of `on_request_complete`):
  nothing is queued for the upstream, but the connection was opened.  "Without
  contacting upstream" holds for `before_upstream_connection`
  (`C09_before_chain_reject`); for `handle_client_request` the theorem is
  `C09_client_request_chain_first` (no byte forwarded).
* Lifecycle callbacks fire for every connection whose first request was
  dispatched to `HttpProxyPlugin`; a complete first request answered 400 before
  a protocol plugin exists has no plugin instances (`C09_lifecycle_not_dispatched`).
-/
namespace Px.Chain
open Px

variable {α : Type}

/-- **C09 order.**  A chain's log is one invocation per plugin, at the consecutive
positions `i, i+1, …` of the configured list, never past its end. -/
theorem C09_order (h : Hook) (f : Plugin → α → Res α) (w : α → Arg) (i : Nat) (ps : List Plugin) (x : α) :
    (chain h f w i ps x).1.length ≤ ps.length ∧
    ∀ k, k < (chain h f w i ps x).1.length → ∃ a, (chain h f w i ps x).1[k]? = some (Eff.call (i + k) h (w a)) := by
  rw [chain_log, mkCalls_length]
  refine ⟨inputs_length_le f ps x, fun k hk => ⟨(inputs f ps x)[k], ?_⟩⟩
  rw [mkCalls_get, List.getElem?_eq_getElem hk]; rfl

/-- **C09 data flow.**  The first plugin is handed the value the chain was
started with; every later plugin is handed exactly the value its predecessor
returned for the value *it* was handed. -/
theorem C09_dataflow (h : Hook) (f : Plugin → α → Res α) (w : α → Arg) (i : Nat) (ps : List Plugin) (x : α) :
    (∀ e, (chain h f w i ps x).1[0]? = some e → e = Eff.call i h (w x)) ∧
    (∀ k e e', (chain h f w i ps x).1[k]? = some e → (chain h f w i ps x).1[k + 1]? = some e' →
      ∃ p a c, ps[k]? = some p ∧ e = Eff.call (i + k) h (w a) ∧ f p a = .pass c ∧
        e' = Eff.call (i + k + 1) h (w c)) := by
  rw [chain_log]
  constructor
  · intro e he
    rw [mkCalls_get, Option.map_eq_some_iff] at he
    obtain ⟨a, ha, rfl⟩ := he
    cases ps with
    | nil => cases ha
    | cons p ps => cases ha; rfl
  · intro k e e' he he'
    rw [mkCalls_get, Option.map_eq_some_iff] at he he'
    obtain ⟨a, ha, rfl⟩ := he
    obtain ⟨c, hc, rfl⟩ := he'
    obtain ⟨p, hp, hf⟩ := inputs_step f ps x k a c ha hc
    exact ⟨p, a, c, hp, rfl, hf, by rw [Nat.add_assoc]⟩

/-- **C09 short circuit.**  The chain ends `done` exactly when every plugin of
the list was invoked and returned a value; it ends `dropped a` / `raised e` at
the first plugin that returns None / raises — the last one invoked; `a` is the
value it was handed. -/
theorem C09_short_circuit (h : Hook) (f : Plugin → α → Res α) (w : α → Arg) (i : Nat) (ps : List Plugin) (x : α) :
    (∀ y, (chain h f w i ps x).2 = .done y →
      (chain h f w i ps x).1.length = ps.length ∧
      ∀ (k : Nat) (a : α), (inputs f ps x)[k]? = some a → ∃ p c, ps[k]? = some p ∧ f p a = .pass c) ∧
    (∀ a, (chain h f w i ps x).2 = .dropped a →
      ∃ k p, (chain h f w i ps x).1.length = k + 1 ∧ ps[k]? = some p ∧ f p a = .drop ∧
        (chain h f w i ps x).1[k]? = some (Eff.call (i + k) h (w a))) ∧
    (∀ e, (chain h f w i ps x).2 = .raised e →
      ∃ k p a, (chain h f w i ps x).1.length = k + 1 ∧ ps[k]? = some p ∧ f p a = .reject e ∧
        (chain h f w i ps x).1[k]? = some (Eff.call (i + k) h (w a))) := by
  have hend := chain_end h f w i ps x
  rw [chain_log, mkCalls_length]
  refine ⟨fun y hy => ?_, fun a ha => ?_, fun e he => ?_⟩
  · simpa only [hy] using hend
  · simp only [ha] at hend
    obtain ⟨k, p, hl, hk, hp, hf⟩ := hend
    exact ⟨k, p, hl, hp, hf, by rw [mkCalls_get, hk]; rfl⟩
  · simp only [he] at hend
    obtain ⟨k, p, a, hl, hk, hp, hf⟩ := hend
    exact ⟨k, p, a, hl, hp, hf, by rw [mkCalls_get, hk]; rfl⟩

/-! Non-vacuity: two plugins that pass a modified value, one that drops, one never reached. -/
example :
    let tag (n : Nat) : Plugin := { Plugin.base with clientData := fun x => .pass (x ++ [UInt8.ofNat n]) }
    let dropper : Plugin := { Plugin.base with clientData := fun _ => .drop }
    (chain .clientData Plugin.clientData Arg.raw 0 [tag 1, tag 2, dropper, tag 3] [0]).1.length = 3 ∧
    inputs Plugin.clientData [tag 1, tag 2, dropper, tag 3] [0] = [[0], [0, 1], [0, 1, 2]] :=
  ⟨rfl, rfl⟩

/-- **C09 `before_upstream_connection`, a plugin returns None.**  No connection
is attempted, nothing is queued for the upstream, `self.upstream` stays unset;
the `handle_client_request` chain still runs on the request as it stood. -/
theorem C09_before_chain_drop (cfg : Cfg) (ps : List Plugin) (ok : Bool) (r x : Req)
    (h : (beforeChain ps r).2 = .dropped x) :
    connects (onRequestComplete cfg ps ok r).1 = [] ∧ upBytes (onRequestComplete cfg ps ok r).1 = [] ∧
    (onRequestComplete cfg ps ok r).2.upstream = false ∧
    (onRequestComplete cfg ps ok r).1 = (beforeChain ps r).1 ++ (creqChain ps x).1 := by
  simp only [onRequestComplete, h, afterBefore, Bool.false_eq_true, if_false, afterConnect]
  split <;> simp

/-- **C09 `before_upstream_connection`, a plugin rejects.**  Handler level, first
request of a connection: no connection attempt, nothing for the upstream, no
later hook is invoked, the client is queued exactly the response the exception
builds (`HttpRequestRejected.response`) — nothing if it has none — and the
connection is closing or closed. -/
theorem C09_before_chain_reject (cfg : Cfg) (ps : List Plugin) (ok : Bool) (r : Req) (e : Exc)
    (h : (beforeChain ps r).2 = .raised e) (rest : Bytes) (more : List (Req × Bytes)) :
    let s := step cfg ps {} (.first r ok rest more)
    connects s.2 = [] ∧ upBytes s.2 = [] ∧ clItems s.2 = e.response.toList ∧
    (s.1.closing = true ∨ s.1.down = true) ∧ s.1.upstream = false ∧
    (∀ j hk a, Eff.call j hk a ∈ s.2 → hk = .before ∧ j < ps.length) := by
  have ho : onRequestComplete cfg ps ok r = ((beforeChain ps r).1, ⟨false, .error e⟩) := by
    simp only [onRequestComplete, h]
  have hf : firstStep cfg ps {} r ok = raise { dispatched := true } (beforeChain ps r).1 e := by
    simp only [firstStep, ho]
  have hs : step cfg ps {} (.first r ok rest more) = firstStep cfg ps {} r ok := by
    simp only [step]
    rcases raise_dead { dispatched := true } (beforeChain ps r).1 e with hd | hd <;> simp [hf, hd]
  simp only [hs, hf, raise_log, raise_keeps]
  refine ⟨by simp, by simp, by simp, raise_dead _ _ _, trivial, ?_⟩
  intro j hk a hm
  rw [call_mem_raise] at hm
  obtain ⟨j', a', heq, _, hlt⟩ := chain_mem _ _ _ _ _ _ _ hm
  cases heq
  exact ⟨rfl, by simpa using hlt⟩

/-- **C09 `before_upstream_connection`, all plugins return a request.**  The
connection is attempted after the whole chain ran, exactly once, to the address
the request *as returned by the last plugin* names (or the one a plugin's
`resolve_dns` supplied). -/
theorem C09_before_chain_pass (cfg : Cfg) (ps : List Plugin) (ok : Bool) (r x : Req)
    (h : (beforeChain ps r).2 = .done x) (hh : x.host ≠ []) (hp : x.port ≠ 0) :
    (onRequestComplete cfg ps ok r).1 = (beforeChain ps r).1 ++ (afterBefore cfg ps ok true x).1 ∧
    connects (beforeChain ps r).1 = [] ∧
    connects (onRequestComplete cfg ps ok r).1 = [(dialTarget ps x, x.port)] := by
  have hne : (x.host.isEmpty || x.port == 0) = false := by simp [hh, hp]
  have hconn : connects (afterBefore cfg ps ok true x).1 = [(dialTarget ps x, x.port)] := by
    have hc := connects_connectUpstream ps x ok
    rw [hne] at hc
    simp only [afterBefore, if_true]
    split <;> simp [hc]
  have ho : (onRequestComplete cfg ps ok r).1 = (beforeChain ps r).1 ++ (afterBefore cfg ps ok true x).1 := by
    simp only [onRequestComplete, h]
  exact ⟨ho, by simp, by simp [ho, hconn]⟩

/-- **C09 `handle_client_request`, first request.**  A plugin returning None or
raising: nothing is queued for the upstream for that request (and nothing for
the client by `on_request_complete` itself); all plugins returning a request
with an upstream and no tunnel: exactly one item is queued, the rebuilt request
*as returned by the last plugin* (minus the proxy headers, plus `Via`). -/
theorem C09_client_request_chain_first (cfg : Cfg) (ps : List Plugin) (up : Bool) (x : Req) :
    (∀ y, (creqChain ps x).2 = .dropped y →
      upBytes (afterConnect cfg ps up x).1 = [] ∧ clItems (afterConnect cfg ps up x).1 = []) ∧
    (∀ e, (creqChain ps x).2 = .raised e →
      upBytes (afterConnect cfg ps up x).1 = [] ∧ (afterConnect cfg ps up x).2.out = .error e) ∧
    (∀ y, (creqChain ps x).2 = .done y → up = true → y.tunnel = false →
      upBytes (afterConnect cfg ps up x).1 = [(fwdFirst y).build cfg.disableHeaders]) ∧
    (∀ y, (creqChain ps x).2 = .done y → up = true → y.tunnel = true →
      upBytes (afterConnect cfg ps up x).1 = [] ∧
      clItems (afterConnect cfg ps up x).1 = [Px.Gen.pkt_PROXY_TUNNEL_ESTABLISHED_RESPONSE_PKT]) := by
  refine ⟨?_, ?_, ?_, ?_⟩
  · intro y h; simp [afterConnect, h]
  · intro e h; simp [afterConnect, h]
  · intro y h hu ht; simp [afterConnect, h, hu, ht, upOfE]
  · intro y h hu ht; simp [afterConnect, h, hu, ht, upOfE, clItems]

/-- **C09 `handle_client_request`, follow-up requests.**  None ⇒ nothing queued
for the upstream for that request and the connection state is unchanged (the
next request is parsed afresh); raise ⇒ nothing for the upstream and the client
is queued exactly the exception's response; all pass ⇒ exactly the rebuilt
request as returned by the last plugin. -/
theorem C09_client_request_chain_later (cfg : Cfg) (ps : List Plugin) (st : St) (r : Req) :
    (∀ y, (creqChain ps r).2 = .dropped y →
      upBytes (follow cfg ps st r).2 = [] ∧ clItems (follow cfg ps st r).2 = [] ∧ (follow cfg ps st r).1 = st) ∧
    (∀ e, (creqChain ps r).2 = .raised e →
      upBytes (follow cfg ps st r).2 = [] ∧ clItems (follow cfg ps st r).2 = e.response.toList ∧
      ((follow cfg ps st r).1.closing = true ∨ (follow cfg ps st r).1.down = true)) ∧
    (∀ y, (creqChain ps r).2 = .done y →
      upBytes (follow cfg ps st r).2 = [(fwdLater y).build cfg.disableHeaders] ∧
      clItems (follow cfg ps st r).2 = []) := by
  refine ⟨?_, ?_, ?_⟩
  · intro y h; simp [follow, h]
  · intro e h; simp only [follow, h, raise_log]
    exact ⟨by simp, by simp, raise_dead _ _ _⟩
  · intro y h; simp [follow, h, upOfE, clItems]

/-- **C09 several requests in one read.**  Every complete request of a read is
handled in turn, exactly like a request that arrives alone (`follow`), each in
the state its predecessor left — until a plugin raises (the connection is then
closing or closed), and unless an upgrade request was forwarded, after which the
rest of the read is passed on raw. -/
theorem C09_packed_followups (cfg : Cfg) (ps : List Plugin) (st : St) (raw : Bytes) (r : Req) (rest : Bytes)
    (more : List (Req × Bytes)) :
    (st.upgraded = false →
      pipeline cfg ps st raw ((r, rest) :: more) =
        if rest.isEmpty || (follow cfg ps st r).1.closing || (follow cfg ps st r).1.down then follow cfg ps st r
        else ((pipeline cfg ps (follow cfg ps st r).1 rest more).1,
              (follow cfg ps st r).2 ++ (pipeline cfg ps (follow cfg ps st r).1 rest more).2)) ∧
    (st.upgraded = true → pipeline cfg ps st raw ((r, rest) :: more) = (st, [.upQ raw])) := by
  constructor <;> intro hu <;> simp [pipeline, hu]

/-- … and bytes that arrive in the same read behind the *first* request are
handed to `on_client_data` right after `on_request_complete` (unless that raised),
in the state it left: the log is the first request's log followed by theirs. -/
theorem C09_packed_first (cfg : Cfg) (ps : List Plugin) (r : Req) (ok : Bool) (rest : Bytes)
    (more : List (Req × Bytes)) (hne : rest ≠ [])
    (hc : (firstStep cfg ps {} r ok).1.closing = false) (hd : (firstStep cfg ps {} r ok).1.down = false) :
    (step cfg ps {} (.first r ok rest more)).2 =
      (firstStep cfg ps {} r ok).2 ++ (clientData cfg ps (firstStep cfg ps {} r ok).1 rest more).2 := by
  simp [step, hc, hd, hne]

/-- **C09 a rejected connection stops reading.**  Once a request was rejected
(`raise`: the connection is flushing-then-closing, or closed), whatever the
client sends reaches no plugin and no upstream. -/
theorem C09_reject_stops_reading (cfg : Cfg) (ps : List Plugin) (st : St)
    (h : st.closing = true ∨ st.down = true) (raw rest : Bytes) (more : List (Req × Bytes)) (r : Req) (ok : Bool) :
    step cfg ps st (.cdata raw more) = (st, []) ∧ step cfg ps st (.first r ok rest more) = (st, []) ∧
    step cfg ps st .first400 = (st, []) := by
  rcases h with h | h <;> simp [step, h]

/-- **C09 `handle_upstream_chunk`.**  The client is queued exactly the chunk as
returned by the last plugin when all return one, and nothing when a plugin
returns None; nothing goes to the upstream either way. -/
theorem C09_upstream_chunk_chain (ps : List Plugin) (st : St) (raw : Bytes) :
    (∀ y, (upChain ps raw).2 = .done y →
      clItems (upstreamData ps st raw).2 = [y] ∧ (upstreamData ps st raw).1.clBuf = st.clBuf ++ [y]) ∧
    (∀ y, (upChain ps raw).2 = .dropped y →
      clItems (upstreamData ps st raw).2 = [] ∧ (upstreamData ps st raw).1 = st) ∧
    upBytes (upstreamData ps st raw).2 = [] := by
  refine ⟨?_, ?_, ?_⟩
  · intro y h; simp only [upstreamData, h]; simp [clItems]
  · intro y h; simp only [upstreamData, h]; simp
  · exact upBytes_upstreamData ps st raw

/-- **C09 reject response.**  Whatever raises an `HttpProtocolException` while
client data is handled, the handler queues exactly `e.response()` — for
`HttpRequestRejected` the packet built from the plugin's status, reason, headers
and body with `Connection: close`, nothing when there is no status code — and
neither connects nor forwards anything. -/
theorem C09_reject_response (st : St) (l : Log) (e : Exc) :
    clItems (raise st l e).2 = clItems l ++ e.response.toList ∧
    connects (raise st l e).2 = connects l ∧ upBytes (raise st l e).2 = upBytes l ∧
    ((raise st l e).1.closing = true ∨ (raise st l e).1.down = true) :=
  have ⟨h1, h2, h3, _⟩ := raise_log st l e
  ⟨h3, h1, h2, raise_dead st l e⟩

example : (Exc.rejected 418 (b "I'm a teapot") [] (b "short")).response =
    some (b "HTTP/1.1 418 I'm a teapot\r\nContent-Length: 5\r\nConnection: close\r\n\r\nshort") := by
  rw [b_ofList, b_ofList, b_ofList]; decide +kernel
example : (Exc.rejected 0 (b "x") [] (b "y")).response = none := by decide +kernel

theorem conn_of_dispatched (cfg : Cfg) (ps : List Plugin) (r : Req) (ok : Bool) (rest : Bytes)
    (more : List (Req × Bytes)) (evs : List Ev) (n : Nat) :
    conn cfg ps (.first r ok rest more :: evs) n = (run cfg ps {} (.first r ok rest more :: evs)).2 ++
      (List.replicate n ((logChain ps).1 ++ defaultLogOf ps ++ upCloseAll 0 ps)).flatten := by
  rw [conn, shutdownLog_eq, run_first_dispatched]; rfl

/-- **C09 lifecycle.**  For every connection whose first request was dispatched
to the proxy plugin — whatever that request ran into (served, dropped, rejected,
authentication failure, connect failure) and whatever follows (`evs`) — with
`shutdown()` called once: the log is `body ++ close` where `body` (the log of the
run, `conn_of_dispatched`) contains no lifecycle effect, and `close` is the `on_access_log` chain (None short-circuit),
the default access-log line iff no plugin claimed it, then
`on_upstream_connection_close` of *every* configured plugin, in configured order. -/
theorem C09_lifecycle (cfg : Cfg) (ps : List Plugin) (r : Req) (ok : Bool) (rest : Bytes)
    (more : List (Req × Bytes)) (evs : List Ev) :
    ∃ body, conn cfg ps (.first r ok rest more :: evs) 1 =
      body ++ ((logChain ps).1 ++ defaultLogOf ps ++ upCloseAll 0 ps) ∧ noLife body = true :=
  ⟨(run cfg ps {} (.first r ok rest more :: evs)).2, by rw [conn_of_dispatched]; simp, (run_kept ..).1⟩

/-- **C09 lifecycle, exactly once.**  Over the whole connection (any events, `n`
calls of `shutdown()`), for every configured plugin `i`:
`on_upstream_connection_close` is invoked `n` times if the first request was
dispatched and never otherwise; `on_access_log` is invoked `n` times if moreover
every plugin before `i` returned a context, and never otherwise.  With the
executor's contract `n = 1` (C10): exactly once. -/
theorem C09_lifecycle_counts (cfg : Cfg) (ps : List Plugin) (evs : List Ev) (n i : Nat) (hi : i < ps.length) :
    countCall i .upClose (conn cfg ps evs n) = (if (run cfg ps {} evs).1.dispatched then n else 0) ∧
    countCall i .accessLog (conn cfg ps evs n) =
      (if (run cfg ps {} evs).1.dispatched ∧ i < (inputs logF ps ([] : Ctx)).length then n else 0) := by
  unfold conn
  have hb1 := countCall_noLife i .upClose rfl _ (run_kept cfg ps {} evs).1
  have hb2 := countCall_noLife i .accessLog rfl _ (run_kept cfg ps {} evs).1
  simp only [countCall_append, hb1, hb2, Nat.zero_add, countCall_replicate, shutdownLog_eq]
  cases hd : (run cfg ps {} evs).1.dispatched with
  | false => simp
  | true =>
    -- `close` is the `on_access_log` calls for the plugins handed a context, then one `upClose` call per plugin
    simp only [if_true, countCall_append, countCall_defaultLogOf, upCloseAll_eq, logChain, chain_log, countCall_mkCalls,
      reduceCtorEq, true_and, false_and, if_false, Nat.zero_le, Nat.zero_add, Nat.add_zero, hi, Nat.mul_one]
    split <;> simp

/-- … in particular `on_upstream_connection_close` exactly once, for the dispatched connection of `C09_lifecycle` -/
theorem C09_lifecycle_once (cfg : Cfg) (ps : List Plugin) (r : Req) (ok : Bool) (rest : Bytes)
    (more : List (Req × Bytes)) (evs : List Ev) (i : Nat)
    (hi : i < ps.length) : countCall i .upClose (conn cfg ps (.first r ok rest more :: evs) 1) = 1 := by
  rw [(C09_lifecycle_counts cfg ps _ 1 i hi).1, run_first_dispatched]; rfl

/-- **C09 lifecycle, no plugin instances.**  A connection whose complete first
request is answered 400 before a protocol plugin exists never invokes any hook
of any plugin, whatever follows and however often `shutdown()` runs; neither
does a connection that never completes a first request. -/
theorem C09_lifecycle_not_dispatched (cfg : Cfg) (ps : List Plugin) (evs : List Ev) (n : Nat) :
    (∀ i h a, Eff.call i h a ∉ conn cfg ps (.first400 :: evs) n) ∧ (∀ i h a, Eff.call i h a ∉ conn cfg ps [] n) := by
  constructor
  · intro i h a hm
    have hstep : step cfg ps {} .first400 =
        ({ clBuf := [Px.Gen.pkt_BAD_REQUEST_RESPONSE_PKT], closing := true },
         [.clQ Px.Gen.pkt_BAD_REQUEST_RESPONSE_PKT]) := by
      simp [step, tearReq]
    have hq : Quiet { clBuf := [Px.Gen.pkt_BAD_REQUEST_RESPONSE_PKT], closing := true } := ⟨rfl, Or.inl rfl⟩
    obtain ⟨hdisp, hall⟩ := quiet_run cfg ps _ evs hq
    -- never dispatched: `shutdown()` adds nothing, and the quiet run calls no plugin
    simp [conn, run, hstep, shutdownLog, hdisp] at hm
    cases List.all_eq_true.1 hall _ hm
  · intro i h a hm
    simp [conn, run, shutdownLog] at hm

/-- **C09 load order (model).**  `Plugins.load` keeps list order within a bucket
and loads each class once, at its first position: loading `l1 ++ l2` is loading
`l2` on top of the result for `l1`, which only appends new names. -/
theorem C09_load_order (bk : Bytes) (l1 l2 : List (Bytes × Bytes)) :
    ∃ t, loadBucket bk (l1 ++ l2) [] = loadBucket bk l1 [] ++ t ∧ ∀ x ∈ t, x ∉ loadBucket bk l1 [] := by
  rw [loadBucket_append]
  exact loadBucket_ext bk l2 _

/-- **C09 load order (code).**  The generated table of flag combinations: the
real loader's result equals the model's, the auth plugin comes ahead of the
user plugins (shared with C08). -/
theorem C09_load_order_table : Px.Gen.pluginOrderTable.all rowOk = true := C08_order

end Px.Chain

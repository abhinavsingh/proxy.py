import PxProofs.ForwardFeed
import PxProofs.ForwardSem
/-!
# C02: the connection model (`Conn.step` / `Conn.feed`)

A request delivered in writes of its own drives `Conn.feed` exactly like the request-level
`feedUntilComplete`: nothing is emitted before its last byte, then the one re-serialised request
(`first_bridge`, `later_bridge`); and every re-serialised request emitted on ANY input is free of
proxy-only fields (`feed_clean`).
-/
namespace Px.Forward

open Px.Parser Px.Build

/-- `P` is what the parser makes of `render r`: complete, nothing buffered, the header map that of `r`'s fields;
    and from `P` the first-request path and the follow-up path write `fwdImpl true` / `fwdImpl false` of `r` -/
structure RenderParsed (cfg : Cfg) (r : Req) (P : Parser) : Prop where
  parse_eq : parse pcfg (init .request) (render r) = .ok P
  complete : P.state = .complete
  buffer_eq : P.buffer = none
  emitFirst_eq : emitFirst cfg P = .ok (render (fwdImpl true cfg r))
  emitLater_eq : emitLater cfg P = .ok (render (fwdImpl false cfg r))
  headers_eq : P.headers.getD [] = entries r.fields

theorem render_parsed (cfg : Cfg) (hc : CfgOk cfg) (r : Req) (hwf : r.WF) (habs : r.isAbsolute = true) :
    ∃ P, RenderParsed cfg r P := by
  obtain ⟨host, port, pq, ht⟩ : ∃ host port pq, r.target = .absolute host port pq := by
    cases htg : r.target with
    | absolute h p q => exact ⟨h, p, q, rfl⟩
    | origin q => simp [Req.isAbsolute, htg] at habs
  obtain ⟨P, hP, hPd⟩ := parse_render r hwf ht
  have ⟨_, _, htgt, hver, _⟩ := hwf
  refine ⟨P, hP, hPd.state, hPd.buffer, ?_, ?_, entries_getD r hPd.headers⟩
  · have hemit := emit_eq true cfg hc r hwf ht hPd
    simp only [if_true] at hemit
    have tf := targetFacts (ht ▸ htgt)
    have hproxy : isProxyRequest P = true := by
      unfold isProxyRequest
      rw [hPd.version, hPd.url, hPd.host]
      rcases hver with hv | hv <;> simp [hv]
    have hutf : Px.Url.utf8Valid host = true := Px.UrlL.utf8Valid_ascii host tf.hostAscii
    unfold emitFirst
    simp only [hproxy, hPd.tunnel, hPd.host, Option.getD_some, tf.hostNe, hutf, Bool.not_true, Bool.false_eq_true,
      if_false, hemit]
  · have hemit := emit_eq false cfg hc r hwf ht hPd
    simp only [Bool.false_eq_true, if_false] at hemit
    exact hemit

theorem feedUntilComplete_rest_mem {pc : Px.Parser.Cfg} {p P : Parser} {segs rest : List Bytes}
    (h : feedUntilComplete pc p segs = .ok (P, rest)) : ∀ s ∈ rest, s ∈ segs := by
  fun_induction feedUntilComplete pc p segs with
  | case1 => cases h; exact fun _ hs => hs
  | case2 => cases h
  | case3 => cases h; exact fun s hs => List.mem_cons_of_mem _ hs
  | case4 _ _ _ _ _ _ ih => exact fun s hs => List.mem_cons_of_mem _ (ih h s hs)

theorem flatten_nil_of_nonempty {l : List Bytes} (hn : ∀ s ∈ l, s ≠ []) (hf : l.flatten = []) : l = [] := by
  cases l with
  | nil => rfl
  | cons a rest =>
    simp only [List.flatten_cons, List.append_eq_nil_iff] at hf
    exact absurd hf.1 (hn a (by simp))

theorem buffer_none_eta {P : Parser} (hb : P.buffer = none) : ({ P with buffer := none } : Parser) = P := by
  cases P; simp_all

def quietThen (n : Nat) (out : List Emit) : List (List Emit) := List.replicate (n - 1) [] ++ [out]

/-- `R c p`: the connection in state `c` is reading a request into parser `p` -/
theorem feed_bridge (cfg : Cfg) (R : Conn → Parser → Prop) {P : Parser} (hPc : P.state = .complete)
    {out : List Emit} {cfin : Conn}
    (hquiet : ∀ c p s p', R c p → s ≠ [] → parse pcfg p s = .ok p' → p'.state ≠ .complete →
      ∃ c', Conn.step cfg c s = ([], c') ∧ R c' p')
    (hfinal : ∀ c p s, R c p → s ≠ [] → parse pcfg p s = .ok P → Conn.step cfg c s = (out, cfin))
    (segs : List Bytes) (hne : ∀ s ∈ segs, s ≠ []) (c : Conn) (p : Parser) (hR : R c p)
    (hp : p.state ≠ .complete) (hfeed : feedUntilComplete pcfg p segs = .ok (P, [])) :
    Conn.feed cfg c segs = (quietThen segs.length out, cfin) := by
  -- counting the quiet writes, not the pieces, keeps the induction free of `segs.length - 1`
  suffices ∃ n, segs.length = n + 1 ∧ Conn.feed cfg c segs = (List.replicate n [] ++ [out], cfin) by
    obtain ⟨n, hn, h⟩ := this
    rw [h, hn]; rfl
  fun_induction feedUntilComplete pcfg p segs generalizing c with
  | case1 => cases hfeed; exact absurd hPc hp
  | case2 => cases hfeed
  | case3 p s _ _ hps =>
    cases hfeed
    exact ⟨0, rfl, by simp only [Conn.feed, hfinal c p s hR (hne s (by simp)) hps]; rfl⟩
  | case4 p s rest p' hps hc ih =>
    have hc : p'.state ≠ .complete := by simpa using hc
    obtain ⟨c', hstep, hR'⟩ := hquiet c p s p' hR (hne s (by simp)) hps hc
    obtain ⟨n, hn, ih'⟩ := ih (fun x hx => hne x (List.mem_cons_of_mem _ hx)) c' hR' hc hfeed
    exact ⟨n + 1, congrArg (· + 1) hn, by simp only [Conn.feed, hstep, ih']; rfl⟩

theorem laterLoop_complete (cfg : Cfg) (f : Nat) (pp : Option Parser) {s : Bytes} (acc : List Emit) (hs : s ≠ [])
    {P : Parser} {out : Bytes} (hps : parse pcfg (pp.getD (init .request)) s = .ok P)
    (hPc : P.state = .complete) (hPb : P.buffer = none) (hout : emitLater cfg P = .ok out) :
    laterLoop cfg (f + 1) pp s acc =
      some (acc ++ [.built out], if isUpgrade (treatLater cfg P) then .relay else .later none) := by
  have hse : s.isEmpty = false := by simpa using hs
  have hcb : (P.state == PState.complete) = true := by simp [hPc]
  rw [laterLoop]
  simp only [hse, Bool.false_eq_true, if_false, hps, hcb, if_true, hPb, Option.getD_none]
  rw [buffer_none_eta hPb, hout]
  simp only [List.isEmpty_nil, if_true, List.append_nil]
  by_cases hu : isUpgrade (treatLater cfg P) = true
  · simp [hu]
  · simp only [hu, Bool.false_eq_true, if_false]
    cases f <;> simp [laterLoop]

theorem later_bridge (cfg : Cfg) {P : Parser} {out : Bytes} (hPc : P.state = .complete) (hPb : P.buffer = none)
    (hout : emitLater cfg P = .ok out) (segs : List Bytes) (hne : ∀ s ∈ segs, s ≠ [])
    (pp : Option Parser) (hpp : (pp.getD (init .request)).state ≠ .complete)
    (hfeed : feedUntilComplete pcfg (pp.getD (init .request)) segs = .ok (P, [])) :
    Conn.feed cfg (.later pp) segs =
      (quietThen segs.length [.built out],
        if isUpgrade (treatLater cfg P) then .relay else .later none) := by
  refine feed_bridge cfg (fun c p => ∃ pp, c = .later pp ∧ p = pp.getD (init .request)) hPc ?_ ?_
    segs hne _ _ ⟨pp, rfl, rfl⟩ hpp hfeed
  · rintro _ _ s p' ⟨pp, rfl, rfl⟩ hs hps hc
    have hse : s.isEmpty = false := by simpa using hs
    have hcb : (p'.state == PState.complete) = false := by simpa using hc
    exact ⟨.later (some p'), by simp [Conn.step, laterWrite, laterLoop, hse, hps, hcb], some p', rfl, rfl⟩
  · rintro _ _ s ⟨pp, rfl, rfl⟩ hs hps
    simp [Conn.step, laterWrite, laterLoop_complete cfg _ pp [] hs hps hPc hPb hout]

theorem first_bridge (cfg : Cfg) {P : Parser} {out : Bytes} (hPc : P.state = .complete) (hPb : P.buffer = none)
    (hout : emitFirst cfg P = .ok out) (segs : List Bytes) (hne : ∀ s ∈ segs, s ≠ []) (p : Parser)
    (hp : p.state ≠ .complete) (hfeed : feedUntilComplete pcfg p segs = .ok (P, [])) :
    Conn.feed cfg (.first p) segs = (quietThen segs.length [.built out], .later none) := by
  refine feed_bridge cfg (fun c p => c = .first p) hPc ?_ ?_ segs hne _ p rfl hp hfeed
  · rintro _ p s p' rfl _ hps hc
    have hcn : (p'.state != PState.complete) = true := by simp [hc]
    exact ⟨.first p', by simp [Conn.step, firstWrite, hps, hcn], rfl⟩
  · rintro _ p s rfl _ hps
    have hcn : (P.state != PState.complete) = false := by simp [hPc]
    simp [Conn.step, firstWrite, hps, hcn, hPb, hout, laterWrite, laterLoop]

/-- relayed client bytes are not judged -/
def Clean (cfg : Cfg) : Emit → Prop
  | .built out => ∃ line hd payload, out = line ++ CRLF ++ (renderDict hd ++ CRLF ++ payload) ∧
      ∀ e ∈ hd, lower e.1 ≠ lower cfg.proxyAuthorization ∧ lower e.1 ≠ lower cfg.proxyConnection
  | .raw _ => True

def Conn.Inv : Conn → Prop
  | .first p => PInv p
  | .later (some p) => PInv p
  | _ => True

theorem emitFirst_ok {cfg : Cfg} {p : Parser} {x : Bytes} (h : emitFirst cfg p = .ok x) :
    buildFor cfg (treatFirst cfg p) = .ok x := by
  unfold emitFirst at h
  -- guard by guard; `split at h` does the same and is four times as slow to check
  by_cases h1 : (!isProxyRequest p) = true
  · rw [if_pos h1] at h; cases h
  by_cases h2 : (p.host.getD []).isEmpty = true
  · rw [if_neg h1, if_pos h2] at h; cases h
  by_cases h3 : (!Px.Url.utf8Valid (p.host.getD [])) = true
  · rw [if_neg h1, if_neg h2, if_pos h3] at h; cases h
  by_cases h4 : p.isTunnel = true
  · rw [if_neg h1, if_neg h2, if_neg h3, if_pos h4] at h; cases h
  rw [if_neg h1, if_neg h2, if_neg h3, if_neg h4] at h
  exact h

theorem built_clean (first : Bool) (cfg : Cfg) (hc : CfgOk cfg) {p : Parser} (hi : PInv p) {out : Bytes}
    (hb : buildFor cfg (if first then treatFirst cfg p else treatLater cfg p) = .ok out) :
    Clean cfg (.built out) := by
  obtain ⟨body, _, _, hout⟩ := buildFor_ok hb
  exact ⟨_, _, _, hout, finalDict_no_credentials first cfg hc hi body⟩

theorem clean_leftover (cfg : Cfg) (x : Bytes) :
    ∀ e ∈ (if x.isEmpty then [] else [Emit.raw x]), Clean cfg e := by
  intro e he
  split at he
  · cases he
  · rw [List.mem_singleton.1 he]; trivial

theorem pinv_pending {pp : Option Parser} (h : Conn.Inv (.later pp)) : PInv (pp.getD (init .request)) := by
  cases pp with
  | none => exact pinv_init _
  | some p => exact h

theorem laterLoop_clean (cfg : Cfg) (hc : CfgOk cfg) (fuel : Nat) :
    ∀ (pp : Option Parser) (raw : Bytes) (acc es : List Emit) (c : Conn),
      (∀ e ∈ acc, Clean cfg e) → Conn.Inv (.later pp) →
      laterLoop cfg fuel pp raw acc = some (es, c) → (∀ e ∈ es, Clean cfg e) ∧ c.Inv := by
  intro pp raw acc es c
  -- a completed request adds one clean emission
  have hbuilt : ∀ {p' : Parser} {acc out}, (∀ e ∈ acc, Clean cfg e) → PInv p' →
      emitLater cfg { p' with buffer := none } = .ok out → ∀ e ∈ acc ++ [.built out], Clean cfg e :=
    fun {p' _ _} hacc hp' hout => List.forall_mem_append.2 ⟨hacc, List.forall_mem_singleton.2
      (built_clean false cfg hc (p := { p' with buffer := none }) hp' hout)⟩
  -- one case per way out of a round of the loop
  fun_induction laterLoop cfg fuel pp raw acc with
  | case1 | case2 =>
    intro hacc hpp h
    cases h
    exact ⟨hacc, hpp⟩
  | case3 | case4 => intro _ _ h; cases h
  | case5 _ _ _ _ _ _ hps _ _ _ _ hout =>
    intro hacc hpp h
    cases h
    exact ⟨List.forall_mem_append.2 ⟨hbuilt hacc (parse_pinv hps (pinv_pending hpp)) hout, clean_leftover cfg _⟩,
      trivial⟩
  | case6 _ _ _ _ _ _ hps _ _ _ _ hout _ ih =>
    exact fun hacc hpp h => ih (hbuilt hacc (parse_pinv hps (pinv_pending hpp)) hout) trivial h
  | case7 _ _ _ _ _ _ hps =>
    intro hacc hpp h
    cases h
    exact ⟨hacc, parse_pinv hps (pinv_pending hpp)⟩

theorem firstWrite_clean (cfg : Cfg) (hc : CfgOk cfg) {p : Parser} (hi : PInv p) {raw : Bytes}
    {es : List Emit} {c : Conn} (h : firstWrite cfg p raw = some (es, c)) :
    (∀ e ∈ es, Clean cfg e) ∧ c.Inv := by
  unfold firstWrite at h
  cases hps : parse pcfg p raw with
  | error e => simp only [hps] at h; cases h
  | ok p' =>
    have hp' : PInv p' := parse_pinv hps hi
    by_cases hcomp : (p'.state != PState.complete) = true
    · simp only [hps, hcomp, if_true] at h
      cases h
      exact ⟨by simp, hp'⟩
    · simp only [hps, hcomp, Bool.false_eq_true, if_false] at h
      split at h
      · cases h
        exact ⟨clean_leftover cfg _, trivial⟩
      · cases h
      · rename_i out hout
        exact laterLoop_clean cfg hc _ none _ [.built out] es c
          (List.forall_mem_singleton.2 (built_clean true cfg hc hp' (emitFirst_ok hout))) trivial h

/-- a write that raises tears the connection down with nothing queued -/
theorem clean_getD_dead {cfg : Cfg} {o : Option (List Emit × Conn)}
    (h : ∀ es c, o = some (es, c) → (∀ e ∈ es, Clean cfg e) ∧ c.Inv) :
    (∀ e ∈ (o.getD ([], .dead)).1, Clean cfg e) ∧ (o.getD ([], .dead)).2.Inv := by
  cases o with
  | none => exact ⟨fun _ he => (nomatch he), trivial⟩
  | some r => exact h r.1 r.2 rfl

theorem step_clean (cfg : Cfg) (hc : CfgOk cfg) (c : Conn) (raw : Bytes) (hi : c.Inv) :
    (∀ e ∈ (Conn.step cfg c raw).1, Clean cfg e) ∧ (Conn.step cfg c raw).2.Inv := by
  cases c with
  | dead => exact ⟨fun _ he => (nomatch he), trivial⟩
  | relay => exact ⟨fun e he => List.mem_singleton.1 he ▸ trivial, trivial⟩
  | later pp =>
    exact clean_getD_dead fun es c h => laterLoop_clean cfg hc _ pp raw [] es c (fun _ he => (nomatch he)) hi h
  | first p => exact clean_getD_dead fun es c h => firstWrite_clean cfg hc hi h

theorem feed_clean (cfg : Cfg) (hc : CfgOk cfg) (writes : List Bytes) (c : Conn) (hi : c.Inv) :
    ∀ es ∈ (Conn.feed cfg c writes).1, ∀ e ∈ es, Clean cfg e := by
  induction writes generalizing c with
  | nil => simp [Conn.feed]
  | cons x xs ih =>
    obtain ⟨h1, h2⟩ := step_clean cfg hc c x hi
    intro es hes
    simp only [Conn.feed, List.mem_cons] at hes
    rcases hes with rfl | hes
    · exact h1
    · exact ih _ h2 es hes

end Px.Forward

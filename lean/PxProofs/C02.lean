import PxProofs.ForwardConn
/-!
# C02 — the forwarded HTTP request is semantically identical to the client's

* model (implementation side): `PxModel/Forward.lean` — `forwardFirst` / `forwardLater` = the real
  parser model fed segment by segment (`Parser.parse`), the header treatment of
  `HttpProxyPlugin.on_request_complete` / `on_client_data`, and `Build.build`; tied to
  `proxy/http/handler.py`, `proxy/http/proxy/server.py`, `proxy/http/parser/parser.py`,
  `proxy/common/utils.py` by the correspondence check `harness/c02.py`;
* specification side: `PxModel/ReqSpec.lean` — `Req`, `Req.WF`, `render` (RFC 7230 grammar with
  name casing, OWS and chunk layout as data), `fwdSpec`, `Req.semEq`.

The forwarded bytes are exhibited as `render (fwdImpl first cfg r)`: the rendering, by the same
grammar, of an explicit request `fwdImpl …` (origin-form target, `name ": " value` lines, body
re-chunked by the proxy) that is `semEq` to the specified one.
-/
namespace Px.Forward

open Px.Parser Px.Build

/-! non-vacuity: inhabitants of every hypothesis used below -/

/-- `POST http://example.com:8080/a?x=1 HTTP/1.1`, odd casing, OWS, proxy-only fields, a client Via,
    chunked body `hello world` as `5;e=1 | 1 | 5`, last chunk `00;t` -/
def exChunked : Req :=
  { method := [80, 79, 83, 84]
    target := .absolute [101, 120, 97, 109, 112, 108, 101, 46, 99, 111, 109] (some [56, 48, 56, 48])
      [47, 97, 63, 120, 61, 49]
    version := Px.Gen.http11
    fields := [
      ⟨[72, 111, 115, 116], [32], [101, 120, 97, 109, 112, 108, 101, 46, 99, 111, 109], []⟩,
      ⟨[112, 82, 79, 88, 89, 45, 97, 117, 116, 104, 111, 114, 105, 122, 97, 116, 105, 111, 110], [], [66, 97, 115, 105, 99, 32, 120], [32, 9]⟩,
      ⟨[80, 114, 111, 120, 121, 45, 67, 111, 110, 110, 101, 99, 116, 105, 111, 110], [9], [107, 101, 101, 112, 45, 97, 108, 105, 118, 101], []⟩,
      ⟨[118, 73, 65], [32, 32], [49, 46, 48, 32, 102, 114, 101, 100], []⟩,
      ⟨[84, 82, 65, 78, 83, 70, 69, 82, 45, 101, 110, 99, 111, 100, 105, 110, 103], [32], [67, 104, 117, 110, 107, 101, 100], [32]⟩,
      ⟨[88, 45, 65], [32], [49], []⟩]
    body := [104, 101, 108, 108, 111, 32, 119, 111, 114, 108, 100]
    framing := .chunked
      [⟨[53], [59, 101, 61, 49], [104, 101, 108, 108, 111]⟩, ⟨[48, 49], [], [32]⟩, ⟨[53], [], [119, 111, 114, 108, 100]⟩]
      [48, 48] [59, 116] }

/-- `PUT http://h HTTP/1.0` with `content-length:  005 ` (lower-case name, leading zeros) and body `hello` -/
def exCl : Req :=
  { method := [80, 85, 84]
    target := .absolute [104] none []
    version := Px.Gen.http10
    fields := [⟨[99, 111, 110, 116, 101, 110, 116, 45, 108, 101, 110, 103, 116, 104], [32, 32], [48, 48, 53], [32]⟩]
    body := [104, 101, 108, 108, 111]
    framing := .contentLength }

/-- `GET http://example.com/2 HTTP/1.1` with a Host field -/
def exGet : Req :=
  { method := [71, 69, 84]
    target := .absolute [101, 120, 97, 109, 112, 108, 101, 46, 99, 111, 109] none [47, 50]
    version := Px.Gen.http11
    fields := [⟨[72, 111, 115, 116], [32], [101, 120, 97, 109, 112, 108, 101, 46, 99, 111, 109], []⟩]
    body := []
    framing := .none }

example : exChunked.WF := by decide +kernel
example : exCl.WF := by decide +kernel
example : exGet.WF := by decide +kernel
example : CfgOk {} := by decide +kernel
example : CfgOk { disable := [[120, 45, 97], [99, 111, 111, 107, 105, 101]] } := by decide +kernel
example : LenReadable exChunked := by unfold LenReadable; decide +kernel
example : exChunked.isAbsolute = true := rfl

/-- `forwardFirst'` and `forwardLater'` are one function of what a complete parser is turned into -/
def forwardWith (emit : Parser → Except Err Bytes) (segs : List Bytes) : Except Err (Bytes × List Bytes) :=
  match feedUntilComplete pcfg (init .request) segs with
  | .error e => .error (.parse e)
  | .ok (p, rest) =>
    if p.state != .complete then .error .incomplete
    else match emit p with
      | .error e => .error e
      | .ok x => .ok (x, rest)

theorem forwardWith_ok {emit : Parser → Except Err Bytes} {segs rest : List Bytes} {x : Bytes} :
    forwardWith emit segs = .ok (x, rest) ↔
      ∃ p, feedUntilComplete pcfg (init .request) segs = .ok (p, rest) ∧ p.state = .complete ∧ emit p = .ok x := by
  unfold forwardWith
  cases feedUntilComplete pcfg (init .request) segs with
  | error e => simp
  | ok pr =>
    obtain ⟨p, rest'⟩ := pr
    by_cases hc : p.state = .complete
    · cases he : emit p <;> simp [hc, he, and_assoc, and_comm]
    · simp [hc, and_assoc]

theorem map_fst_ok {ε α β : Type} {e : Except ε (α × β)} {x : α} :
    e.map (·.1) = .ok x ↔ ∃ r, e = .ok (x, r) := by
  cases e with
  | error _ => simp [Except.map]
  | ok v => obtain ⟨a, r⟩ := v; simp [Except.map]

theorem forward_eq (first : Bool) (cfg : Cfg) (segs : List Bytes) :
    (if first then forwardFirst cfg segs else forwardLater cfg segs) =
      (forwardWith (if first then emitFirst cfg else emitLater cfg) segs).map (·.1) := by
  cases first <;> rfl

theorem forward_ok {first : Bool} {cfg : Cfg} {segs : List Bytes} {out : Bytes}
    (h : (if first then forwardFirst cfg segs else forwardLater cfg segs) = .ok out) :
    ∃ p, PInv p ∧ buildFor cfg (if first then treatFirst cfg p else treatLater cfg p) = .ok out := by
  rw [forward_eq] at h
  obtain ⟨rest, h'⟩ := map_fst_ok.1 h
  obtain ⟨p, hf, -, he⟩ := forwardWith_ok.1 h'
  refine ⟨p, feedUntilComplete_pinv hf (pinv_init _), ?_⟩
  cases first
  · exact he
  · exact emitFirst_ok he

theorem forward_wf (first : Bool) (cfg : Cfg) (hc : CfgOk cfg) (r : Req) (hwf : r.WF)
    (habs : r.isAbsolute = true) (segs : List Bytes) (hs : segs.flatten = render r) :
    (if first then forwardFirst cfg segs else forwardLater cfg segs) = .ok (render (fwdImpl first cfg r)) := by
  obtain ⟨P, hP⟩ := render_parsed cfg hc r hwf habs
  obtain ⟨rest, hfeed, -⟩ := feed_segmented hP.parse_eq hP.complete hP.buffer_eq segs hs
  rw [forward_eq]
  refine map_fst_ok.2 ⟨rest, forwardWith_ok.2 ⟨P, hfeed, hP.complete, ?_⟩⟩
  cases first
  · exact hP.emitLater_eq
  · exact hP.emitFirst_eq

/-- **C02 (first request).**  For every well-formed absolute-form HTTP/1.x request `r` — any method
token, host/port/path, fields with case-insensitively unique names in any casing and with any OWS,
Content-Length / chunked (any layout, extensions, empty body) / no body — and every way `segs` of
cutting `render r` into pieces: the proxy forwards exactly one message, the RFC 7230 rendering of
`fwdImpl true cfg r`, and that request is semantically equal to `fwdSpec cfg r`. -/
theorem C02_first_request (cfg : Cfg) (hc : CfgOk cfg) (r : Req) (hwf : r.WF) (habs : r.isAbsolute = true)
    (hlen : LenReadable r) (segs : List Bytes) (hs : segs.flatten = render r) :
    forwardFirst cfg segs = .ok (render (fwdImpl true cfg r)) ∧
      (fwdImpl true cfg r).semEq (fwdSpec cfg r) :=
  ⟨forward_wf true cfg hc r hwf habs segs hs, semEq_impl_spec true cfg hc r hwf hlen⟩

/-- **C02 (later requests), partial.**  The full statement is `C02_first_request` with `forwardLater`.
It does NOT hold for the code as it is: follow-up requests get no Via field (finding D10v,
`C02_later_witness_noVia`).  Proved here: everything else, i.e. against the specification *without*
the Via clause (`fwdSpecWith false`). -/
theorem C02_later_request_partial (cfg : Cfg) (hc : CfgOk cfg) (r : Req) (hwf : r.WF) (habs : r.isAbsolute = true)
    (hlen : LenReadable r) (segs : List Bytes) (hs : segs.flatten = render r) :
    forwardLater cfg segs = .ok (render (fwdImpl false cfg r)) ∧
      (fwdImpl false cfg r).semEq (fwdSpecWith false cfg r) :=
  ⟨forward_wf false cfg hc r hwf habs segs hs, semEq_impl_spec false cfg hc r hwf hlen⟩

/-- **C02 (headers).**  For *any* parser state whose header map has the parser's invariant (every
state reachable by `parse`, `parse_pinv`): the header dict handed to `build_http_request` is the
map after the treatment (Via: `withVia_absent`, `withVia_present`) minus the disabled keys, in the
original order, names and values exactly as received. -/
theorem C02_headers (first : Bool) (cfg : Cfg) (p : Parser) (hi : PInv p) :
    headerDict (if first then treatFirst cfg p else treatLater cfg p) cfg.disable =
      ((treatedMap first cfg (p.headers.getD [])).filter (fun e => !cfg.disable.contains e.1)).map (·.2) := by
  rw [headerDict_of_inv _ _ (pinv_treated first cfg hi), treated_headers]

/-- **C02 (no credentials).**  For EVERY input — well-formed or not, any segmentation: whatever is
forwarded has no field named Proxy-Authorization or Proxy-Connection in any casing. -/
theorem C02_no_credentials_request (first : Bool) (cfg : Cfg) (hc : CfgOk cfg) (segs : List Bytes) (out : Bytes)
    (h : (if first then forwardFirst cfg segs else forwardLater cfg segs) = .ok out) :
    ∃ line hd payload, out = line ++ CRLF ++ (renderDict hd ++ CRLF ++ payload) ∧
      ∀ e ∈ hd, lower e.1 ≠ lower cfg.proxyAuthorization ∧ lower e.1 ≠ lower cfg.proxyConnection := by
  obtain ⟨p, hi, hb⟩ := forward_ok h
  exact built_clean first cfg hc hi hb

/-- **C02 (forwarded lines are well formed).**  Every field line of the forwarded message is
`token ":" SP field-value`: legal name, no CR / LF / control byte in the value, no OWS at its ends —
re-serialisation cannot inject or merge header lines. -/
theorem C02_forwarded_fields_wellformed (first : Bool) (cfg : Cfg) (ha : AgentOk cfg) (r : Req) (hwf : r.WF) :
    ∀ f ∈ (fwdImpl first cfg r).fields, fieldOk f = true :=
  fwdImpl_fieldOk first cfg ha r hwf

/-- regression check of finding D25 (client Via overwritten; fixed): the client's Via is appended to -/
theorem C02_via_appended :
    (forwardFirst {} [b "POST http://example.com:8080/a HTTP/1.1\r\nHost: example.com\r\nVia: 1.0 fred\r\nContent-Length: 5\r\n\r\nhello"]).toOption =
      some (b "POST /a HTTP/1.1\r\nHost: example.com\r\nVia: 1.0 fred, 1.1 " ++ Px.Gen.proxyAgentHeaderValue ++
        b "\r\nContent-Length: 5\r\n\r\nhello") := by
  rw [b_ofList, b_ofList, b_ofList]
  decide +kernel

theorem fwdImpl_layout_irrelevant (first : Bool) (cfg : Cfg) (r : Req) (cs' : List ChunkSpec) (lsz' lext' : Bytes)
    (hch : r.framing.isChunked = true) :
    fwdImpl first cfg { r with framing := .chunked cs' lsz' lext' } = fwdImpl first cfg r := by
  cases hf : r.framing with
  | none => simp [hf, Framing.isChunked] at hch
  | contentLength => simp [hf, Framing.isChunked] at hch
  | chunked cs lsz lext => simp [fwdImpl, implDict, keptDict, hf, Framing.isCL]

/-- **C02 (chunked).**  Two well-formed requests that differ only in how the client cut the same
body into chunks (sizes, hex spelling, extensions, spelling of the last chunk), each delivered in
any segmentation, are forwarded as the *same bytes*; the payload is a valid chunked stream — written
by `ChunkParser.to_chunks` with the proxy's buffer size — that decodes to the client's body and ends
in `0 CRLF CRLF` (also for the empty body). -/
theorem C02_chunked (first : Bool) (cfg : Cfg) (hc : CfgOk cfg) (r : Req) (cs' : List ChunkSpec) (lsz' lext' : Bytes)
    (hwf : r.WF) (hch : r.framing.isChunked = true)
    (hwf' : ({ r with framing := .chunked cs' lsz' lext' } : Req).WF) (habs : r.isAbsolute = true)
    (segs segs' : List Bytes) (hs : segs.flatten = render r)
    (hs' : segs'.flatten = render { r with framing := .chunked cs' lsz' lext' }) :
    (if first then forwardFirst cfg segs else forwardLater cfg segs) =
        (if first then forwardFirst cfg segs' else forwardLater cfg segs') ∧
      (if first then forwardFirst cfg segs else forwardLater cfg segs) = .ok (render (fwdImpl first cfg r)) ∧
      (fwdImpl first cfg r).body = r.body ∧
      ∃ head, render (fwdImpl first cfg r) =
          head ++ (Px.Codec.chunksOf cfg.bufSize r.body.length r.body).render ∧
        (Px.Codec.chunksOf cfg.bufSize r.body.length r.body).Valid ∧
        (Px.Codec.chunksOf cfg.bufSize r.body.length r.body).decoded = r.body ∧
        ∃ pre, (Px.Codec.chunksOf cfg.bufSize r.body.length r.body).render = pre ++ [48] ++ CRLF ++ CRLF := by
  have e1 := forward_wf first cfg hc r hwf habs segs hs
  have e2 := forward_wf first cfg hc _ hwf' habs segs' hs'
  rw [fwdImpl_layout_irrelevant first cfg r cs' lsz' lext' hch] at e2
  have hpos : 0 < cfg.bufSize := Nat.pos_of_ne_zero hc.1
  refine ⟨e1.trans e2.symm, e1, rfl, ?_⟩
  have hbody : renderBody (fwdImpl first cfg r) = (Px.Codec.chunksOf cfg.bufSize r.body.length r.body).render := by
    cases hf : r.framing with
    | none => simp [hf, Framing.isChunked] at hch
    | contentLength => simp [hf, Framing.isChunked] at hch
    | chunked cs lsz lext =>
      simp only [renderBody, fwdImpl, hf]
      rw [← toStream_render, rechunk, toStream_rechunkAux]
  refine ⟨requestLine (fwdImpl first cfg r) ++ CRLF ++ (renderFields (fwdImpl first cfg r).fields ++ CRLF), ?_,
    Px.Codec.chunksOf_valid _ hpos _ _, Px.Codec.chunksOf_decoded _ hpos _ _ (Nat.le_refl _),
    ⟨_, Px.Codec.chunksOf_render _ _ _⟩⟩
  simp only [render, hbody, List.append_assoc]

/-- **C02 (Content-Length).**  The body bytes follow the header block unchanged; every Content-Length
field of the forwarded message reads as the body length; a non-empty body gets `Content-Length: <len>`
in exactly that spelling (set by `build_http_request`).  The trap: when the client spelled the name
differently (`content-length`), its field is forwarded as well — an equal-valued repetition
(`C02_content_length_repeated`), which `semEq` counts once. -/
theorem C02_content_length (first : Bool) (cfg : Cfg) (hc : CfgOk cfg) (r : Req) (hwf : r.WF)
    (hfrm : r.framing = .contentLength) (hlen : LenReadable r) :
    render (fwdImpl first cfg r) = requestLine (fwdImpl first cfg r) ++ CRLF ++
        (renderFields (fwdImpl first cfg r).fields ++ CRLF ++ r.body) ∧
      (∀ v ∈ clValues (fwdImpl first cfg r), v = some (Int.ofNat r.body.length)) ∧
      (r.body ≠ [] → ∃ f ∈ (fwdImpl first cfg r).fields, f.name = nCL ∧ f.value = natToDec r.body.length) := by
  refine ⟨?_, ?_, ?_⟩
  · simp [render, renderBody, fwdImpl, hfrm]
  · intro v hv
    have hsem := semEq_impl_spec first cfg hc r hwf hlen
    exact clValues_spec_all first cfg r hwf hfrm v (hsem.2.2.2.2.1.1 hv)
  · intro hne
    have hb : r.body.isEmpty = false := by simpa using hne
    refine ⟨{ name := nCL, pre := [SP], value := natToDec r.body.length, post := [] }, ?_, rfl, rfl⟩
    simp only [fwdImpl, implDict, hfrm, Framing.isCL, hb, Bool.not_false, Bool.and_self, if_true, List.mem_map]
    exact ⟨(nCL, natToDec r.body.length), Px.Codec.mem_dSet_self _ _ _, rfl⟩

/-- `exCl` is forwarded with the fields `content-length: 005`, `Via: …`, `Content-Length: 5` -/
theorem C02_content_length_repeated :
    (fwdImpl true {} exCl).fields.map (fun f => (f.name, f.value)) =
        [(clName, [48, 48, 53]), (viaName, viaValue {}), (nCL, [53])] ∧
      clValues (fwdImpl true {} exCl) = [some 5, some 5] := by decide +kernel

/-! `Conn.step` / `Conn.feed` (what `harness/c02.py` ties to the code) model every write of a
connection: first request, leftover handed to `on_client_data`, the `_handle_pipeline_data` loop,
CONNECT / upgrade relay, teardown on an exception; a client write may carry several requests
(/repo 84c574d).  The theorems below are about requests that
arrive in writes of their own (any number of non-empty pieces per request, the next request after
the previous one's last byte); requests *sharing* a write are covered by the correspondence runs
and the oracle only. -/

theorem Conn.feed_append (cfg : Cfg) (c : Conn) (a b : List Bytes) :
    Conn.feed cfg c (a ++ b) =
      ((Conn.feed cfg c a).1 ++ (Conn.feed cfg (Conn.feed cfg c a).2 b).1, (Conn.feed cfg (Conn.feed cfg c a).2 b).2) := by
  induction a generalizing c with
  | nil => simp [Conn.feed]
  | cons x xs ih => simp [Conn.feed, ih]

theorem quietThen_flatten (n : Nat) (out : List Emit) : (quietThen n out).flatten = out := by
  simp [quietThen, List.flatten_replicate_nil]

def upgradeLower : Bytes := [117, 112, 103, 114, 97, 100, 101]      -- "upgrade"

/-- a follow-up with Connection + Upgrade switches the connection to relaying (`Conn.relay`) -/
def Req.noUpgrade (r : Req) : Prop := r.fields.any (nameIs upgradeLower) = false

instance (r : Req) : Decidable r.noUpgrade := by unfold Req.noUpgrade; infer_instance

example : exGet.noUpgrade := by decide

theorem not_upgrade (cfg : Cfg) {r : Req} (hn : r.noUpgrade) {P : Parser}
    (hh : P.headers.getD [] = entries r.fields) : isUpgrade (treatLater cfg P) = false := by
  have hno : hasHeader (treatLater cfg P) (b "Upgrade") = false := by
    rw [hasHeader_eq, treatLater_eq, show lower (b "Upgrade") = upgradeLower by rw [b_ofList]; decide]
    show ((P.headers.map (keptEntries cfg)).getD []).any _ = false
    rw [getD_map_keptEntries, hh, List.any_eq_false]
    intro x hx
    obtain ⟨f, hf, rfl⟩ := List.mem_map.1 (mem_keptEntries hx).1
    simpa [nameIs] using List.any_eq_false.1 hn f hf
  simp [isUpgrade, hno]

/-- a well-formed request delivered in non-empty pieces of its own: the last piece completes it and nothing is
    left over -/
theorem feed_request (cfg : Cfg) (hc : CfgOk cfg) (r : Req) (hwf : r.WF) (habs : r.isAbsolute = true)
    (segs : List Bytes) (hne : ∀ s ∈ segs, s ≠ []) (hs : segs.flatten = render r) :
    ∃ P, RenderParsed cfg r P ∧ feedUntilComplete pcfg (init .request) segs = .ok (P, []) := by
  obtain ⟨P, hP⟩ := render_parsed cfg hc r hwf habs
  obtain ⟨rest, hfeed, hrest⟩ := feed_segmented hP.parse_eq hP.complete hP.buffer_eq segs hs
  have hr : rest = [] :=
    flatten_nil_of_nonempty (fun s hs' => hne s (feedUntilComplete_rest_mem hfeed s hs')) hrest
  exact ⟨P, hP, hr ▸ hfeed⟩

theorem conn_first (cfg : Cfg) (hc : CfgOk cfg) (r : Req) (hwf : r.WF) (habs : r.isAbsolute = true)
    (segs : List Bytes) (hne : ∀ s ∈ segs, s ≠ []) (hs : segs.flatten = render r) :
    Conn.feed cfg Conn.start segs = (quietThen segs.length [.built (render (fwdImpl true cfg r))], .later none) := by
  obtain ⟨P, hP, hfeed⟩ := feed_request cfg hc r hwf habs segs hne hs
  exact first_bridge cfg hP.complete hP.buffer_eq hP.emitFirst_eq segs hne _ (by simp [init]) hfeed

/-- a follow-up request leaves the connection waiting for the next one, unless it asks for an upgrade -/
theorem conn_later (cfg : Cfg) (hc : CfgOk cfg) (r : Req) (hwf : r.WF) (habs : r.isAbsolute = true)
    (segs : List Bytes) (hne : ∀ s ∈ segs, s ≠ []) (hs : segs.flatten = render r) :
    ∃ c, Conn.feed cfg (.later none) segs = (quietThen segs.length [.built (render (fwdImpl false cfg r))], c) ∧
      (c = .later none ∨ c = .relay) ∧ (r.noUpgrade → c = .later none) := by
  obtain ⟨P, hP, hfeed⟩ := feed_request cfg hc r hwf habs segs hne hs
  refine ⟨_, later_bridge cfg hP.complete hP.buffer_eq hP.emitLater_eq segs hne none (by simp [init]) hfeed, ?_,
    fun hn => by simp [not_upgrade cfg hn hP.headers_eq]⟩
  cases isUpgrade (treatLater cfg P) <;> simp

/-- **C02 (first request), on the connection.**  `r` as in `C02_first_request`, cut into any non-empty
pieces, on a fresh connection: no write before the last one makes the proxy send anything to the
origin; the last one makes it send exactly `render (fwdImpl true cfg r)`; the connection then waits
for follow-up requests. -/
theorem C02_first (cfg : Cfg) (hc : CfgOk cfg) (r : Req) (hwf : r.WF) (habs : r.isAbsolute = true)
    (hlen : LenReadable r) (segs : List Bytes) (hne : ∀ s ∈ segs, s ≠ []) (hs : segs.flatten = render r) :
    Conn.feed cfg Conn.start segs =
        (quietThen segs.length [.built (render (fwdImpl true cfg r))], .later none) ∧
      (fwdImpl true cfg r).semEq (fwdSpec cfg r) :=
  ⟨conn_first cfg hc r hwf habs segs hne hs, semEq_impl_spec true cfg hc r hwf hlen⟩

/-- **C02 (later requests), partial.**  Full statement: as `C02_first`, from the state a connection is
in after its earlier requests (`Conn.later none`), against `fwdSpec`.  It does not hold for the
code as it is — no Via on follow-ups, finding D10v (`C02_later_witness_noVia`).  Proved: everything
else (`fwdSpecWith false`).  After an upgrade request client bytes are relayed. -/
theorem C02_later_partial (cfg : Cfg) (hc : CfgOk cfg) (r : Req) (hwf : r.WF) (habs : r.isAbsolute = true)
    (hlen : LenReadable r) (segs : List Bytes) (hne : ∀ s ∈ segs, s ≠ []) (hs : segs.flatten = render r) :
    (∃ c, Conn.feed cfg (.later none) segs =
        (quietThen segs.length [.built (render (fwdImpl false cfg r))], c) ∧
        (c = .later none ∨ c = .relay) ∧ (r.noUpgrade → c = .later none)) ∧
      (fwdImpl false cfg r).semEq (fwdSpecWith false cfg r) :=
  ⟨conn_later cfg hc r hwf habs segs hne hs, semEq_impl_spec false cfg hc r hwf hlen⟩

/-- **D10v witness.**  `exGet` sent as a follow-up request is forwarded without a Via field. -/
theorem C02_later_witness_noVia :
    (Conn.feed {} (.later none) [render exGet]).1 = [[.built (render (fwdImpl false {} exGet))]] ∧
      forwardLater {} [render exGet] = .ok (render (fwdImpl false {} exGet)) ∧
      ¬ (fwdImpl false {} exGet).semEq (fwdSpec {} exGet) ∧
      (fwdImpl false {} exGet).fields.all (fun f => !nameIs viaLower f) = true := by
  have hcfg : CfgOk {} := by decide +kernel
  have hwf : exGet.WF := by decide +kernel
  have hlen : LenReadable exGet := by unfold LenReadable; decide +kernel
  obtain ⟨⟨c, hfeed, -⟩, -⟩ := C02_later_partial {} hcfg exGet hwf rfl hlen [render exGet]
    (by intro s hs; rw [List.mem_singleton.1 hs]; decide) (by simp)
  exact ⟨by rw [hfeed]; rfl, (C02_later_request_partial {} hcfg exGet hwf rfl hlen [render exGet] (by simp)).1,
    by decide +kernel, by decide +kernel⟩

/-- **C02 (whole connection, sequential requests).**  A first request and any number of follow-up
requests (none of them an upgrade request), each well formed and delivered in non-empty pieces of
its own: the origin receives, in order, exactly one message per request and nothing else. -/
theorem C02_connection (cfg : Cfg) (hc : CfgOk cfg) (r0 : Req) (segs0 : List Bytes)
    (h0 : r0.WF ∧ r0.isAbsolute = true ∧ (∀ s ∈ segs0, s ≠ []) ∧ segs0.flatten = render r0)
    (later : List (Req × List Bytes))
    (hl : ∀ x ∈ later, x.1.WF ∧ x.1.isAbsolute = true ∧ x.1.noUpgrade ∧ (∀ s ∈ x.2, s ≠ []) ∧ x.2.flatten = render x.1) :
    ((Conn.feed cfg Conn.start (segs0 ++ (later.map (·.2)).flatten)).1.flatten =
        .built (render (fwdImpl true cfg r0)) :: later.map (fun x => .built (render (fwdImpl false cfg x.1)))) ∧
      (Conn.feed cfg Conn.start (segs0 ++ (later.map (·.2)).flatten)).2 = .later none := by
  obtain ⟨hw0, ha0, hn0, hs0⟩ := h0
  have hfirst := conn_first cfg hc r0 hw0 ha0 segs0 hn0 hs0
  have hrest : ∀ (l : List (Req × List Bytes)),
      (∀ x ∈ l, x.1.WF ∧ x.1.isAbsolute = true ∧ x.1.noUpgrade ∧ (∀ s ∈ x.2, s ≠ []) ∧ x.2.flatten = render x.1) →
      (Conn.feed cfg (.later none) (l.map (·.2)).flatten).1.flatten =
          l.map (fun x => Emit.built (render (fwdImpl false cfg x.1))) ∧
        (Conn.feed cfg (.later none) (l.map (·.2)).flatten).2 = .later none := by
    intro l
    induction l with
    | nil => intro _; simp [Conn.feed]
    | cons x xs ih =>
      intro hx
      obtain ⟨hw, ha, hnu, hn, hs⟩ := hx x (by simp)
      obtain ⟨c, hreq, -, hnup⟩ := conn_later cfg hc x.1 hw ha x.2 hn hs
      rw [hnup hnu] at hreq
      have ih' := ih (fun y hy => hx y (List.mem_cons_of_mem _ hy))
      simp only [List.map_cons, List.flatten_cons, Conn.feed_append, hreq, List.flatten_append,
        quietThen_flatten, ih'.1, ih'.2, List.singleton_append, and_self]
  have := hrest later hl
  simp only [Conn.feed_append, hfirst, List.flatten_append, quietThen_flatten, this.1, this.2,
    List.singleton_append, and_self]

/-- **C02 (no credentials), every input.**  For EVERY sequence of client writes — well-formed or not,
any segmentation, any number of requests per write: no request the proxy re-serialises for the
origin has a field named Proxy-Authorization or Proxy-Connection in any casing.  Bytes relayed
verbatim after CONNECT or after an upgrade request are the client's own stream and not judged
(`Clean`). -/
theorem C02_no_credentials (cfg : Cfg) (hc : CfgOk cfg) (writes : List Bytes) :
    ∀ es ∈ (Conn.feed cfg Conn.start writes).1, ∀ e ∈ es, Clean cfg e :=
  feed_clean cfg hc writes Conn.start (pinv_init _)

end Px.Forward

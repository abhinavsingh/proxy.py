import PxProofs.BuildHeaders
import PxProofs.UpdateLemmas
import PxProofs.WfMessage
/-!
# C15 — HTTP message and chunked codecs round-trip and agree with a reference

Models: `PxModel/Chunk.lean`, `Parser.lean`, `Build.lean`, `UpdateBody.lean`; tied to
`proxy/http/parser/chunk.py`, `parser.py`, `proxy/common/utils.py` by `harness/c15.py`.
The decoder's completeness for its grammar, `Px.Chunk.parse_stream`, is in `PxProofs/ChunkLemmas.lean`.

Open findings stated as witness theorems at the end: D22 (chunked trailers), D24 (a path starting
with `//` is not read back).
-/
namespace Px.Codec

open Px.Parser Px.Build Px.UpdateBody
open Px.Url (Url)

/-- `int('{:x}'.format(n), 16) == n` -/
theorem C15_hex_roundtrip (n : Nat) : pyInt 16 (natToHex n) = some (Int.ofNat n) := pyInt16_natToHex n

/-- `int(str(n)) == n` (`Content-Length`) for every `n` with at most int-max-str-digits (4300) digits;
    beyond that CPython — and the model — refuse the text -/
theorem C15_dec_roundtrip (n : Nat) (h : n < 10 ^ intMaxStrDigits) :
    pyInt 10 (natToDec n) = some (Int.ofNat n) := pyInt10_natToDec n h

example : (131072 : Nat) < 10 ^ intMaxStrDigits :=
  Nat.lt_of_lt_of_le (by decide : 131072 < 10 ^ 6) (Nat.pow_le_pow_right (by decide) (by decide))

/-- **C15 encoder/decoder inverse**: the decoder fed `to_chunks(body, n)` followed by any `tail` is complete,
    holds exactly `body`, and hands `tail` back. -/
theorem C15_chunk_inverse (body : Bytes) (n : Nat) (hn : 0 < n) (tail : Bytes) :
    ∃ enc, Px.Chunk.toChunks body n = .ok enc ∧
      Px.Chunk.parse Px.Chunk.init (enc ++ tail) =
        .ok ({ state := .complete, body := body, chunk := [], size := none }, tail) := by
  obtain ⟨hv, hd, hr⟩ := toChunks_in_grammar body n (by omega)
  refine ⟨_, hr, ?_⟩
  have := Px.Chunk.parse_stream _ hv Px.Chunk.init rfl rfl tail
  rw [hd] at this
  simpa [Px.Chunk.init] using this

/-- the encoder writes `⌈len / n⌉` data chunks of at most `n` bytes, then the last-chunk -/
theorem C15_chunk_inverse_sizes (body : Bytes) (n : Nat) (hn : 0 < n) :
    Px.Chunk.toChunks body n = .ok (chunksOf n body.length body).render ∧
      ChunkedStream.count (chunksOf n body.length body) = (body.length + n - 1) / n :=
  ⟨toChunks_render body n (by omega), chunksOf_count n hn _ _ (Nat.le_refl _)⟩

/-- chunk size 0 is rejected (`range()` step 0 raises ValueError) -/
theorem C15_chunk_size_zero (body : Bytes) : Px.Chunk.toChunks body 0 = .error .valueError := rfl

/-- **C15 reference decoder.**  For every stream `s` of the chunked-body grammar of RFC 7230 §4.1
    (`RStream.ok`: chunk-size = 1*HEXDIG in either case with leading zeros, optional chunk extensions,
    last-chunk = 1*"0" with optional extension, **no trailer part** — D22) and every `tail`, the
    decoder returns the reference decoding `refDecode s` and hands `tail` back. -/
theorem C15_chunk_reference (s : RStream) (h : s.ok = true) (tail : Bytes) :
    Px.Chunk.parse Px.Chunk.init (s.render ++ tail) =
      .ok ({ state := .complete, body := refDecode s, chunk := [], size := none }, tail) :=
  decode_rfc s h tail

/-- the encoder's output lies in the grammar the decoder is proved complete for -/
theorem C15_toChunks_in_grammar (body : Bytes) (n : Nat) (h : n ≠ 0) :
    ∃ s : Px.Chunk.ChunkedStream, s.Valid ∧ s.decoded = body ∧ Px.Chunk.toChunks body n = .ok s.render :=
  ⟨_, toChunks_in_grammar body n h⟩

/-- non-vacuity: `A;x=1 CRLF 0123456789 CRLF 005 CRLF hello CRLF 00;l CRLF CRLF` is in the grammar -/
example : (RStream.mk [⟨[65], [59, 120, 61, 49], [48, 49, 50, 51, 52, 53, 54, 55, 56, 57]⟩,
    ⟨[48, 48, 53], [], [104, 101, 108, 108, 111]⟩] [48, 48] [59, 108]).ok = true := by decide +kernel

/-- the parser consumes start line and header block of a rendered request in two loop iterations; what remains is
    the body phase on the payload -/
theorem C15_parse_pkt (cfg : Cfg) {m u v : Bytes} {url : Url} (H : HDict) (B : Bytes)
    (hmne : m ≠ []) (hm : SP ∉ m) (hu : SP ∉ u) (hl : splitCRLF (m ++ SP :: (u ++ SP :: v)) = none)
    (hurl : Px.Url.fromBytes cfg.allowedSchemes u = .ok url) (hH : ∀ e ∈ H, HdrOK e.1 e.2) :
    parse cfg (init .request) (m ++ SP :: (u ++ SP :: v) ++ CRLF ++ (renderHdrs H ++ CRLF ++ B)) =
      match foldHdrs (reqLineParser cfg
          (m ++ SP :: (u ++ SP :: v) ++ CRLF ++ (renderHdrs H ++ CRLF ++ B)).length m v url) H with
      | .error e => .error e
      | .ok q => bodyPhase cfg ((m ++ SP :: (u ++ SP :: v) ++ CRLF ++ (renderHdrs H ++ CRLF ++ B)).length + 6) q B :=
  parse_request_pkt cfg H B hmne hm hu hl hurl hH _ rfl

/-- **what `build_http_request` sends**: `method SP url SP version CRLF`, the header list `reqHeaders` rendered as
    `name ": " value CRLF`, a blank line, the body; when the caller's header names do not collide with the
    builder's, that list is the caller's headers followed by the builder's additions in a fixed order. -/
theorem C15_req_headers (ua m u v : Bytes) (ct : Option Bytes) (hs : HDict) (body : Option Bytes) (cc noUa : Bool) :
    buildRequest ua m u v ct hs body cc noUa =
      m ++ SP :: (u ++ SP :: v) ++ CRLF ++
        (renderHdrs (reqHeaders ua ct hs body cc noUa) ++ CRLF ++ body.getD []) ∧
    (disjointFromBuilder hs = true →
      reqHeaders ua ct hs body cc noUa = hs ++ ctPart ct ++ clPart body ++ uaPart ua noUa ++ connPart cc) :=
  ⟨buildRequest_eq ua m u v ct hs body cc noUa, req_headers_disjoint ua ct hs body cc noUa⟩

/-- the suppression rules of `build_http_request`: any `transfer-encoding` key suppresses
    `Content-Length`; any `user-agent` key, or `no_ua`, suppresses `User-Agent` -/
theorem C15_req_headers_suppressed (ua : Bytes) (ct : Option Bytes) (hs : HDict) (body : Option Bytes)
    (cc noUa : Bool) :
    (hasKey kTE hs = true → hasKey kCL hs = false → ∀ e ∈ reqHeaders ua ct hs body cc noUa, isCL e = false) ∧
    (hasKey kUA hs = true ∨ noUa = true → reqH3 ua ct hs body noUa = reqH2 ct hs body) :=
  ⟨req_no_cl_when_te ua ct hs body cc noUa, req_no_ua_when_given ua ct hs body noUa⟩

/-- **C15 builder → parser, requests.**  For all field values in the guard `WFReq` (method / target /
    version non-empty without SP, CR, LF; header names non-empty without `:` / whitespace / CR / LF,
    values without CR / LF and stripped; no caller-supplied `content-length` / `transfer-encoding`),
    a target `Url.from_bytes` accepts, any body (`None`, empty, binary) below 10^4300 bytes:
    parsing the built packet is complete with the same method, version, target (as parsed `Url`),
    the header map of exactly the headers sent (lower-case key ↦ (name, value), dict semantics for
    repeated keys, `hdrsOf`), the same body (`None` when empty), nothing left over.
    Case-insensitive uniqueness of the caller's names is not needed. -/
theorem C15_parse_build_req (cfg : Cfg) (ua m u v : Bytes) (ct : Option Bytes) (hs : HDict) (body : Option Bytes)
    (cc noUa : Bool) (url : Url) (hwf : WFReq m u v ct hs ua = true)
    (hurl : Px.Url.fromBytes cfg.allowedSchemes u = .ok url)
    (hlen : (body.getD []).length < 10 ^ intMaxStrDigits) :
    ∃ r, parse cfg (init .request) (buildRequest ua m u v ct hs body cc noUa) = .ok r ∧
      ReqResult r m v url (reqHeaders ua ct hs body cc noUa) (if bodyTruthy body then body else none) false := by
  simp only [WFReq, Bool.and_eq_true] at hwf
  obtain ⟨⟨⟨⟨⟨⟨hm, hu⟩, hv⟩, hh⟩, hnf⟩, hct⟩, hua⟩ := hwf
  rw [buildRequest_eq]
  exact req_pkt cfg hm hu hv hurl (wfHeaders_reqHeaders hh hct hua) (framing_of_body
    (reqHeaders_noTE fun e he => isTEChunked_false_of (noFraming_te hnf e he))
    (fun e he hc => (reqHeaders_cl hnf he hc).2 ▸ pyInt10_natToDec _ hlen)
    (fun hb => ⟨_, reqHeaders_has_cl (noFraming_te hnf) hb, isCL_nCL _⟩))

/-- non-vacuity of `WFReq`: `POST /p HTTP/1.1`, headers `Host: h`, `x~tok!: "q"`, the real User-Agent -/
example : WFReq [80, 79, 83, 84] [47, 112] [72, 84, 84, 80, 47, 49, 46, 49] (some [97, 47, 98])
    [([72, 111, 115, 116], [104]), ([120, 126, 116, 111, 107, 33], [34, 113, 34])]
    Px.Gen.proxyAgentHeaderValue = true := by decide +kernel
example : Px.Url.fromBytes Px.Gen.defaultAllowedUrlSchemes [47, 112] = .ok { remainder := some [47, 112] } := rfl

/-- **C15 builder → parser, requests with caller-supplied `Transfer-Encoding: chunked`**: the body
    handed over is a chunked stream (e.g. `to_chunks` output, `C15_toChunks_in_grammar`); no
    Content-Length is added and the parser reports the decoded body. -/
theorem C15_parse_build_req_chunked (cfg : Cfg) (ua m u v : Bytes) (ct : Option Bytes) (hs : HDict)
    (s : Px.Chunk.ChunkedStream) (cc noUa : Bool) (url : Url)
    (hwf : WFReqChunked m u v ct hs ua = true) (hurl : Px.Url.fromBytes cfg.allowedSchemes u = .ok url)
    (hv : s.Valid) :
    ∃ r, parse cfg (init .request) (buildRequest ua m u v ct hs (some s.render) cc noUa) = .ok r ∧
      ReqResult r m v url (reqHeaders ua ct hs (some s.render) cc noUa) (some s.decoded) true := by
  simp only [WFReqChunked, Bool.and_eq_true] at hwf
  obtain ⟨⟨⟨⟨⟨⟨hm, hu⟩, hv'⟩, hh⟩, hch⟩, hct⟩, hua⟩ := hwf
  obtain ⟨⟨t, ht, htc⟩, hncl0⟩ := chunkedHdrs_spec hch
  have hncl := reqHeaders_noCL (ua := ua) (ct := ct) (body := some s.render) (cc := cc) (noUa := noUa)
    ht (isTEChunked_key htc) hncl0
  rw [buildRequest_eq]
  exact req_pkt cfg hm hu hv' hurl (wfHeaders_reqHeaders hh hct hua)
    (.chunked (List.any_eq_true.2 ⟨t, mem_reqHeaders_of_te ht (isTEChunked_key htc), htc⟩)
      (fun e he hc => absurd hc (hncl e he ▸ Bool.false_ne_true)) hv)

example : WFReqChunked [80] [47] [72] none
    [([116, 114, 97, 110, 115, 102, 101, 114, 45, 69, 110, 99, 111, 100, 105, 110, 103], [67, 104, 117, 110, 107, 101, 100])]
    [] = true := by decide +kernel

/-- **what `build_http_response` sends** -/
theorem C15_res_headers (status : Int) (v : Bytes) (reason : Option Bytes) (hs : HDict) (body : Option Bytes)
    (cc noCl : Bool) :
    buildResponse status v reason hs body cc noCl =
      statusLine status v reason ++ CRLF ++ (renderHdrs (resHeaders hs body cc noCl) ++ CRLF ++ body.getD []) ∧
    (disjointFromBuilder hs = true →
      resHeaders hs body cc noCl =
        hs ++ (if noCl then [] else [(nCL, if bodyTruthy body then natToDec (body.getD []).length else [48])]) ++
          connPart cc) ∧
    (hasKey kTE hs = true ∨ noCl = true → resHeaders hs body cc noCl = pktHeaders hs cc) :=
  ⟨buildResponse_eq status v reason hs body cc noCl, res_headers_disjoint hs body cc noCl,
    res_no_cl_when_te hs body cc noCl⟩

/-- **C15 builder → parser, responses** (`no_cl = False`): every status code (any integer), version in
    the guard, reason `None` / empty (both read back as `None`) / any text without CR, LF (spaces
    allowed), headers in the guard, any body: complete, same version, code = decimal text of the
    status, reason, header map of the headers sent (`Content-Length: len(body)`, `0` when empty), body. -/
theorem C15_parse_build_resp (cfg : Cfg) (status : Int) (v : Bytes) (reason : Option Bytes) (hs : HDict)
    (body : Option Bytes) (cc : Bool) (hwf : WFRes v reason hs = true)
    (hlen : (body.getD []).length < 10 ^ intMaxStrDigits) :
    ∃ r, parse cfg (init .response) (buildResponse status v reason hs body cc false) = .ok r ∧
      ResResult r v (intToDec status) (reasonSeen reason) (resHeaders hs body cc false)
        (if bodyTruthy body then body else none) false := by
  simp only [WFRes, Bool.and_eq_true] at hwf
  obtain ⟨⟨⟨hv, hr⟩, hh⟩, hnf⟩ := hwf
  rw [buildResponse_eq]
  exact res_pkt cfg status reason hv hr (wfHeaders_resHeaders hh) (framing_of_body
    (resHeaders_noTE fun e he => isTEChunked_false_of (noFraming_te hnf e he))
    (fun e he hc => by rw [(resHeaders_cl hnf he hc).2, resp_cl_value]; exact pyInt10_natToDec _ hlen)
    (fun _ => ⟨_, resHeaders_has_cl (noFraming_te hnf), isCL_nCL _⟩))

example : WFRes [72, 84, 84, 80, 47, 49, 46, 49] (some [78, 111, 116, 32, 70, 111, 117, 110, 100])
    [([88], [121, 32, 122])] = true := by decide +kernel
example : WFRes [72] none [] = true ∧ WFRes [72] (some []) [] = true := by decide +kernel

/-- **C15 builder → parser, header-less response** (`no_cl = True`, no headers, no body — e.g. the
    tunnel-established packet): complete at once, no header map, no body, nothing left over.
    (With `no_cl` and a body the response is delimited by connection close and never completes:
    outside the property's quantifier.) -/
theorem C15_parse_build_resp_headerless (cfg : Cfg) (status : Int) (v : Bytes) (reason : Option Bytes)
    (hv : plainTok v = true) (hr : reasonOK reason = true) :
    ∃ r, parse cfg (init .response) (buildResponse status v reason [] none false true) = .ok r ∧
      r.state = .complete ∧ r.version = some v ∧ r.code = some (intToDec status) ∧
      r.reason = reasonSeen reason ∧ r.headers = none ∧ r.body = none ∧ r.buffer = none := by
  obtain ⟨r, h1, h2⟩ := res_pkt cfg status reason hv hr (H := []) rfl (.nobody rfl nofun)
  rw [buildResponse_eq]
  exact ⟨r, h1, h2.state_eq, h2.version_eq, h2.code_eq, h2.reason_eq, h2.headers_eq, h2.body_eq, h2.buffer_eq⟩

/-- **C15 rebuild, requests.**  Guard `ReqGuard` (request with plain method / version, path — `/` when
    absent — plain, origin-form and **not starting with `//`** (D24), header map with keys = lower-cased
    unique names and names / values in the header grammar) plus one of three framings:
    * no body: not chunked, no `Transfer-Encoding: chunked`, every `content-length` reads 0;
    * Content-Length: not chunked, no `transfer-encoding` key, every `content-length` (any spelling)
      reads `len(body)`; the builder writes `Content-Length` — replacing a header spelled exactly so, or
      **adding a second header** next to a differently spelled one, which the parser then merges;
    * chunked: some `Transfer-Encoding: chunked`, `content-length` values integer literals; the body
      is re-chunked (any buffer size ≠ 0), **including the empty body** (`0 CRLF CRLF`, D4).
    Then `build()` succeeds and parsing its output is complete with the same method, version, path,
    body, chunked flag and the header map of what was sent. -/
theorem C15_build_parse_req (cfg : Cfg) (bufSize : Nat) (hbs : bufSize ≠ 0) (p : Parser) (meth ver : Bytes)
    (g : ReqGuard p meth ver) :
    (p.isChunked = false → bodyTruthy p.body = false →
      (∀ e ∈ hdrPairs p, isTEChunked e = false) →
      (∀ e ∈ hdrPairs p, isCL e = true → pyInt 10 e.2 = some 0) →
      ∃ raw r, Px.Build.build bufSize Px.Gen.defaultDisableHeaders p none none = .ok raw ∧
        parse cfg (init .request) raw = .ok r ∧
        ReqResult r meth ver { remainder := some (pathOf p) } (hdrPairs p) none false) ∧
    (p.isChunked = false → bodyTruthy p.body = true →
      (∀ e ∈ hdrPairs p, lower e.1 ≠ kTE) →
      (∀ e ∈ hdrPairs p, isCL e = true → pyInt 10 e.2 = some (Int.ofNat (p.body.getD []).length)) →
      (p.body.getD []).length < 10 ^ intMaxStrDigits →
      ∃ raw r, Px.Build.build bufSize Px.Gen.defaultDisableHeaders p none none = .ok raw ∧
        parse cfg (init .request) raw = .ok r ∧
        ReqResult r meth ver { remainder := some (pathOf p) }
          (dSet (hdrPairs p) nCL (natToDec (p.body.getD []).length)) p.body false) ∧
    (∀ bd, p.isChunked = true → p.body = some bd →
      (∃ e ∈ hdrPairs p, isTEChunked e = true) → clValuesOK (hdrPairs p) →
      ∃ raw r, Px.Build.build bufSize Px.Gen.defaultDisableHeaders p none none = .ok raw ∧
        parse cfg (init .request) raw = .ok r ∧
        ReqResult r meth ver { remainder := some (pathOf p) } (hdrPairs p) (some bd) true) := by
  have hwf := wfHeaders_namesOf g.hdrs
  refine ⟨fun hch hb hte hcl => ?_, fun hch hb hte hcl hlen => ?_, fun bd hch hb hte hcl => ?_⟩
  · obtain ⟨r, h1, h2⟩ := g.pkt cfg hwf
      (.nobody (List.any_eq_false.2 (fun e he => hte e he ▸ Bool.false_ne_true)) hcl)
    exact ⟨_, r, build_req_pkt_nobody bufSize g hch hb, h1, h2⟩
  · obtain ⟨hne, hbeq⟩ := bodyTruthy_getD hb
    obtain ⟨r, h1, h2⟩ := g.pkt cfg (wfHeaders_dSet_cl hwf (wfValue_natToDec _)) (framing_dSet_cl hte hcl hlen hne)
    exact ⟨_, r, build_req_pkt_cl bufSize g hch hb hte, h1, hbeq ▸ h2⟩
  · obtain ⟨t, ht, htc⟩ := hte
    obtain ⟨enc, henc, fr⟩ := framing_chunked bd hbs ht htc hcl
    obtain ⟨r, h1, h2⟩ := g.pkt cfg hwf fr
    exact ⟨_, r, build_req_pkt_chunked bufSize g hch hb henc ht htc, h1, h2⟩

/-- **the "unique, lower-cased keys" part of the rebuild guard is automatic**, whatever bytes are fed to a fresh
    parser, in however many pieces (so a received `content-length` and the builder's `Content-Length` always land
    in one entry).  The rest of `hdrInvB` (names / values in the header grammar) holds exactly when the received
    header lines were in the grammar. -/
theorem C15_parse_keys_inv (cfg : Cfg) (ty : PType) (segs : List Bytes) {q : Parser}
    (h : parseAll cfg (init ty) segs = .ok q) :
    ∀ hm, q.headers = some hm → (hm.map (·.1)).Nodup ∧ ∀ e ∈ hm, e.1 = lower e.2.1 :=
  parseAll_keysInv cfg ty segs h

/-- when nothing is added the header map read back is the original one -/
theorem C15_build_parse_headers_same (h : Headers) (hi : hdrInvB h = true) (hne : h ≠ []) :
    hdrsOf (namesOf h) = some h := hdrsOf_namesOf h hi hne

/-- **a `content-length` spelled in another case**: the wire carries the original header and the
    builder's `Content-Length`; the parser merges them into one entry under the original key position
    with the builder's name and value -/
theorem C15_build_parse_other_case_cl (L : HDict) (v : Bytes) (hno : ∀ e ∈ L, e.1 ≠ nCL) :
    dSet L nCL v = L ++ [(nCL, v)] ∧
    hdrFold [] (L ++ [(nCL, v)]) = hdrSet (hdrFold [] L) kCL (nCL, v) := by
  refine ⟨dSet_of_not_mem L nCL v hno, ?_⟩
  rw [hdrFold_append]
  show hdrSet (hdrFold [] L) (lower nCL) (nCL, v) = _
  rw [lower_nCL]

/-- a chunked request with an **empty body** in the guard (non-vacuity; the D4 case) -/
def exChunkedEmpty : Parser :=
  { ty := .request, state := .complete, method := some [80, 79, 83, 84],
    version := some [72, 84, 84, 80, 47, 49, 46, 49], path := some [47],
    headers := some [(kTE, ([84, 114, 97, 110, 115, 102, 101, 114, 45, 69, 110, 99, 111, 100, 105, 110, 103], vChunked))],
    body := some [], isChunked := true }

theorem exChunkedEmpty_guard : ReqGuard exChunkedEmpty [80, 79, 83, 84] [72, 84, 84, 80, 47, 49, 46, 49] :=
  ⟨rfl, rfl, rfl, by decide +kernel, by decide +kernel, by decide +kernel, by decide +kernel, by decide +kernel⟩

example : ReqGuard exChunkedEmpty [80, 79, 83, 84] [72, 84, 84, 80, 47, 49, 46, 49] := exChunkedEmpty_guard
example : (∃ e ∈ hdrPairs exChunkedEmpty, isTEChunked e = true) ∧ clValuesOK (hdrPairs exChunkedEmpty) :=
  ⟨⟨_, List.mem_cons_self .., by decide +kernel⟩, fun e he hc => by
    rw [List.mem_singleton.1 he] at hc
    exact absurd hc (by decide +kernel)⟩

/-- **C15 rebuild, responses.**  Guard `ResGuard` (version plain, code the canonical decimal text of an
    integer — `build_response` re-renders `int(code)` —, reason without CR / LF, header map as for
    requests) plus the three framings.  `Content-Length` is always (re)written unless a
    `transfer-encoding` key is present: `0` for a body-less response. The reason is read back as
    `None` when it was empty. -/
theorem C15_build_parse_resp (cfg : Cfg) (bufSize : Nat) (hbs : bufSize ≠ 0) (p : Parser) (ver code : Bytes) (n : Int)
    (g : ResGuard p ver code n) :
    (p.isChunked = false → bodyTruthy p.body = false →
      (∀ e ∈ hdrPairs p, lower e.1 ≠ kTE) →
      (∀ e ∈ hdrPairs p, isCL e = true → pyInt 10 e.2 = some 0) →
      ∃ raw r, buildResponseOf bufSize p = .ok raw ∧ parse cfg (init .response) raw = .ok r ∧
        ResResult r ver code (reasonSeen p.reason) (dSet (hdrPairs p) nCL [48]) none false) ∧
    (p.isChunked = false → bodyTruthy p.body = true →
      (∀ e ∈ hdrPairs p, lower e.1 ≠ kTE) →
      (∀ e ∈ hdrPairs p, isCL e = true → pyInt 10 e.2 = some (Int.ofNat (p.body.getD []).length)) →
      (p.body.getD []).length < 10 ^ intMaxStrDigits →
      ∃ raw r, buildResponseOf bufSize p = .ok raw ∧ parse cfg (init .response) raw = .ok r ∧
        ResResult r ver code (reasonSeen p.reason)
          (dSet (hdrPairs p) nCL (natToDec (p.body.getD []).length)) p.body false) ∧
    (∀ bd, p.isChunked = true → p.body = some bd →
      (∃ e ∈ hdrPairs p, isTEChunked e = true) → clValuesOK (hdrPairs p) →
      ∃ raw r, buildResponseOf bufSize p = .ok raw ∧ parse cfg (init .response) raw = .ok r ∧
        ResResult r ver code (reasonSeen p.reason) (hdrPairs p) (some bd) true) := by
  have hwf := wfHeaders_namesOf g.hdrs
  refine ⟨fun hch hb hte hcl => ?_, fun hch hb hte hcl hlen => ?_, fun bd hch hb hte hcl => ?_⟩
  · obtain ⟨r, h1, h2⟩ := g.pkt cfg (wfHeaders_dSet_cl hwf wfValue_zero)
      (.nobody (dSet_cl_noTE _ hte) (forall_mem_dSet hcl (fun _ => pyInt10_zero)))
    exact ⟨_, r, build_resp_pkt_nobody bufSize g hch hb hte, h1, h2⟩
  · obtain ⟨hne, hbeq⟩ := bodyTruthy_getD hb
    obtain ⟨r, h1, h2⟩ := g.pkt cfg (wfHeaders_dSet_cl hwf (wfValue_natToDec _)) (framing_dSet_cl hte hcl hlen hne)
    exact ⟨_, r, build_resp_pkt_cl bufSize g hch hb hte, h1, hbeq ▸ h2⟩
  · obtain ⟨t, ht, htc⟩ := hte
    obtain ⟨enc, henc, fr⟩ := framing_chunked bd hbs ht htc hcl
    obtain ⟨r, h1, h2⟩ := g.pkt cfg hwf fr
    exact ⟨_, r, build_resp_pkt_chunked bufSize g hch hb henc ht htc, h1, h2⟩

/-- non-vacuity of `ResGuard`: `HTTP/1.1 404 Not Found`, `X: y` -/
def exResp : Parser :=
  { ty := .response, state := .complete, version := some [72, 84, 84, 80, 47, 49, 46, 49], code := some [52, 48, 52],
    reason := some [78, 111, 116, 32, 70, 111, 117, 110, 100], headers := some [([120], ([88], [121]))] }

example : ResGuard exResp [72, 84, 84, 80, 47, 49, 46, 49] [52, 48, 52] 404 :=
  ⟨rfl, rfl, rfl, by decide +kernel, by decide +kernel, by decide +kernel, by decide +kernel, by decide +kernel,
    by decide +kernel⟩

/-- **C15 update_body, not chunked, requests**: the stored body is `gz body` iff the message has
    `content-encoding: gzip` (any other content-encoding header is removed), `Content-Length` is its
    length, `Content-Type` is set; the rebuilt message reads back complete with exactly that header
    map and body. -/
theorem C15_update_body_plain (cfg : Cfg) (gz : Bytes → Bytes) (bufSize : Nat) (p : Parser)
    (meth ver body ct : Bytes) (g : ReqGuard p meth ver) (hch : p.isChunked = false)
    (hte : ∀ a ∈ p.headers.getD [], a.1 ≠ kTE) (hct : wfValue ct = true)
    (hlen : (updBody gz (p.headers.getD []) body).length < 10 ^ intMaxStrDigits) :
    ∃ raw r, updateBody gz bufSize p body ct = .ok (updParser gz p body ct) ∧
      Px.Build.build bufSize Px.Gen.defaultDisableHeaders (updParser gz p body ct) none none = .ok raw ∧
      parse cfg (init .request) raw = .ok r ∧ r.state = .complete ∧
      r.method = some meth ∧ r.version = some ver ∧ r.path = some (pathOf p) ∧
      r.headers = some (updHeaders gz (p.headers.getD []) body ct) ∧
      r.body = (if updBody gz (p.headers.getD []) body = [] then none
                else some (updBody gz (p.headers.getD []) body)) ∧
      r.buffer = none ∧ r.isChunked = false := by
  obtain ⟨raw, r, hbuild, hparse, hhdrs, h⟩ := build_parse_req_exact cfg bufSize (updParser gz p body ct) rfl rfl hch
    (upd_exact gz _ body ct g.hdrs hte) hlen meth ver (g.withHeaders (hdrInvB_upd gz _ body ct g.hdrs hct) _)
  exact ⟨raw, r, updateBody_plain gz bufSize p body ct hch, hbuild, hparse, h.state_eq, h.method_eq, h.version_eq,
    h.path_eq, hhdrs, h.body_eq, h.buffer_eq, h.chunked_eq⟩

/-- the same for responses -/
theorem C15_update_body_plain_resp (cfg : Cfg) (gz : Bytes → Bytes) (bufSize : Nat) (p : Parser)
    (ver code body ct : Bytes) (n : Int) (g : ResGuard p ver code n) (hch : p.isChunked = false)
    (hte : ∀ a ∈ p.headers.getD [], a.1 ≠ kTE) (hct : wfValue ct = true)
    (hlen : (updBody gz (p.headers.getD []) body).length < 10 ^ intMaxStrDigits) :
    ∃ raw r, updateBody gz bufSize p body ct = .ok (updParser gz p body ct) ∧
      buildResponseOf bufSize (updParser gz p body ct) = .ok raw ∧
      parse cfg (init .response) raw = .ok r ∧ r.state = .complete ∧
      r.version = some ver ∧ r.code = some code ∧
      r.headers = some (updHeaders gz (p.headers.getD []) body ct) ∧
      r.body = (if updBody gz (p.headers.getD []) body = [] then none
                else some (updBody gz (p.headers.getD []) body)) ∧
      r.buffer = none ∧ r.isChunked = false := by
  obtain ⟨raw, r, hbuild, hparse, hhdrs, h⟩ := build_parse_resp_exact cfg bufSize (updParser gz p body ct) rfl rfl hch
    (upd_exact gz _ body ct g.hdrs hte) hlen ver code n (g.withHeaders (hdrInvB_upd gz _ body ct g.hdrs hct) _)
  exact ⟨raw, r, updateBody_plain gz bufSize p body ct hch, hbuild, hparse, h.state_eq, h.version_eq, h.code_eq,
    hhdrs, h.body_eq, h.buffer_eq, h.chunked_eq⟩

theorem C15_update_body_headers (gz : Bytes → Bytes) (h : Headers) (body ct : Bytes) :
    hdrGet (updHeaders gz h body ct) kCT = some (nCT, ct) ∧
    hdrGet (updHeaders gz h body ct) kCL = some (nCL, natToDec (updBody gz h body).length) ∧
    (hdrGet (updHeaders gz h body ct) kCE).isSome = isGzip h :=
  ⟨updHeaders_ct gz h body ct, updHeaders_cl_get gz h body ct, updHeaders_ce gz h body ct⟩

/-- **gzip**: with `gunzip ∘ gz = id`, un-compressing what a receiver reads gives the new body back
    when the message is gzip-encoded; otherwise the body is stored as it is -/
theorem C15_update_body_gzip (gz gunzip : Bytes → Bytes) (hinv : ∀ x, gunzip (gz x) = x) (h : Headers) (body : Bytes) :
    (isGzip h = true → gunzip (updBody gz h body) = body) ∧ (isGzip h = false → updBody gz h body = body) := by
  unfold updBody
  constructor
  · intro hz; rw [hz]; exact hinv body
  · intro hz; rw [hz]; rfl

/-- non-vacuity of the `gunzip ∘ gz = id` hypothesis (the identity codec) and of `isGzip` -/
example : ∀ x : Bytes, (id : Bytes → Bytes) (id x) = x := fun _ => rfl
example : isGzip [(kCE, ([67, 69], vGzip))] = true := by decide +kernel

/-- **C15 update_body, chunked request.**  `update_body` stores the new body decoded (compressed with
    `gz` iff `content-encoding: gzip`), drops `content-length`, sets `Content-Type`; `build()` re-chunks
    it once; the rebuilt message is read back complete and chunked with the expected header map and
    **decodes to the new body** (D23). -/
theorem C15_update_body_chunked (cfg : Cfg) (gz : Bytes → Bytes) (bufSize : Nat) (hbs : bufSize ≠ 0)
    (p : Parser) (meth ver body ct : Bytes) (g : ReqGuard p meth ver) (hch : p.isChunked = true)
    (hte : ∃ a ∈ p.headers.getD [], isTEChunked a.2 = true) (hct : wfValue ct = true) :
    ∃ p' raw r, updateBody gz bufSize p body ct = .ok p' ∧
      p'.body = some (updBody gz (p.headers.getD []) body) ∧
      Px.Build.build bufSize Px.Gen.defaultDisableHeaders p' none none = .ok raw ∧
      parse cfg (init .request) raw = .ok r ∧ r.state = .complete ∧ r.isChunked = true ∧
      r.method = some meth ∧ r.version = some ver ∧ r.path = some (pathOf p) ∧
      r.headers = some (updHeadersCh (p.headers.getD []) ct) ∧
      r.body = some (updBody gz (p.headers.getD []) body) ∧ r.buffer = none := by
  obtain ⟨hinv, hTE, hnoCL⟩ := updCh_facts (p.headers.getD []) ct g.hdrs hct hte
  obtain ⟨raw, r, hbuild, hparse, hhdrs, h⟩ := build_parse_req_chunked_same cfg bufSize (updParserCh gz p body ct)
    rfl rfl hbs hch hTE hnoCL meth ver (g.withHeaders hinv _)
  exact ⟨_, raw, r, updateBody_chunked gz bufSize p body ct hch, rfl, hbuild, hparse, h.state_eq, h.chunked_eq,
    h.method_eq, h.version_eq, h.path_eq, hhdrs, h.body_eq, h.buffer_eq⟩

/-- the same for chunked responses -/
theorem C15_update_body_chunked_resp (cfg : Cfg) (gz : Bytes → Bytes) (bufSize : Nat) (hbs : bufSize ≠ 0)
    (p : Parser) (ver code body ct : Bytes) (n : Int) (g : ResGuard p ver code n) (hch : p.isChunked = true)
    (hte : ∃ a ∈ p.headers.getD [], isTEChunked a.2 = true) (hct : wfValue ct = true) :
    ∃ p' raw r, updateBody gz bufSize p body ct = .ok p' ∧
      p'.body = some (updBody gz (p.headers.getD []) body) ∧
      buildResponseOf bufSize p' = .ok raw ∧
      parse cfg (init .response) raw = .ok r ∧ r.state = .complete ∧ r.isChunked = true ∧
      r.version = some ver ∧ r.code = some code ∧
      r.headers = some (updHeadersCh (p.headers.getD []) ct) ∧
      r.body = some (updBody gz (p.headers.getD []) body) ∧ r.buffer = none := by
  obtain ⟨hinv, hTE, hnoCL⟩ := updCh_facts (p.headers.getD []) ct g.hdrs hct hte
  obtain ⟨raw, r, hbuild, hparse, hhdrs, h⟩ := build_parse_resp_chunked_same cfg bufSize (updParserCh gz p body ct)
    rfl rfl hbs hch hTE hnoCL ver code n (g.withHeaders hinv _)
  exact ⟨_, raw, r, updateBody_chunked gz bufSize p body ct hch, rfl, hbuild, hparse, h.state_eq, h.chunked_eq,
    h.version_eq, h.code_eq, hhdrs, h.body_eq, h.buffer_eq⟩

/-- the parsed form of `POST / HTTP/1.1`, `Transfer-Encoding: chunked`, body `hello` -/
def exChunkedHello : Parser :=
  { exChunkedEmpty with body := some [104, 101, 108, 108, 111] }

/-- `update_body(b'NEWBODY', b'text/plain')` on the chunked request above, then `build()`: a receiver reads
    back the body `NEWBODY` (D23) -/
theorem C15_update_body_chunked_example (cfg : Cfg) :
    ∃ p' raw r, updateBody id Px.Gen.defaultBufferSize exChunkedHello [78, 69, 87, 66, 79, 68, 89]
        [116, 101, 120, 116, 47, 112, 108, 97, 105, 110] = .ok p' ∧
      Px.Build.build Px.Gen.defaultBufferSize Px.Gen.defaultDisableHeaders p' none none = .ok raw ∧
      parse cfg (init .request) raw = .ok r ∧ r.state = .complete ∧
      r.body = some [78, 69, 87, 66, 79, 68, 89] := by
  -- the guard does not look at the body, the only field in which `exChunkedHello` differs
  have g : ReqGuard exChunkedHello [80, 79, 83, 84] [72, 84, 84, 80, 47, 49, 46, 49] := ⟨rfl, rfl, rfl,
    exChunkedEmpty_guard.methodTok, exChunkedEmpty_guard.versionTok, exChunkedEmpty_guard.pathTok,
    exChunkedEmpty_guard.pathOrigin, exChunkedEmpty_guard.hdrs⟩
  obtain ⟨p', raw, r, h1, -, h3, h4, h5, -, -, -, -, -, h10, -⟩ :=
    C15_update_body_chunked cfg id Px.Gen.defaultBufferSize (by decide +kernel) exChunkedHello
      [80, 79, 83, 84] [72, 84, 84, 80, 47, 49, 46, 49] [78, 69, 87, 66, 79, 68, 89]
      [116, 101, 120, 116, 47, 112, 108, 97, 105, 110] g rfl
      ⟨_, List.mem_cons_self .., by decide +kernel⟩ (by decide +kernel)
  exact ⟨p', raw, r, h1, h3, h4, h5, h10⟩

/-- **C15 WF_message.**  `wfMessage` (`PxProofs/WfMessage.lean`) is a decidable check independent of
    `HttpParser.parse`; it shares the line and split primitives with the parser model. -/
theorem C15_wf_pkt (isReq : Bool) (line : Bytes) (H : HDict) (B : Bytes)
    (hl : startLineOK isReq line = true) (hH : wfHeaders H = true) (hf : framingOK isReq H B = true) :
    wfMessage isReq (line ++ CRLF ++ (renderHdrs H ++ CRLF ++ B)) = true :=
  wfMessage_pkt isReq line H B hl hH hf

/-- the chunk encoder writes exactly one chunked body for every body and chunk size — `0 CRLF CRLF`
    for the empty body -/
theorem C15_wf_toChunks (body : Bytes) (n : Nat) (hn : 0 < n) :
    ∃ enc, Px.Chunk.toChunks body n = .ok enc ∧ chunkedOK (enc.length + 1) enc = true :=
  chunkedOK_toChunks body n hn

/-- **C15 rebuilt requests are well-formed**, for each framing; chunked includes the empty body.
    The Content-Length guard is textual (every received `content-length` is the canonical decimal of the
    body length): with `content-length: 05` received, the wire carries `05` next to the builder's `5`. -/
theorem C15_rebuild_wf (bufSize : Nat) (hbs : bufSize ≠ 0) (p : Parser) (meth ver : Bytes) (g : ReqGuard p meth ver) :
    (p.isChunked = false → bodyTruthy p.body = false →
      (∀ e ∈ hdrPairs p, isTEChunked e = false) → (∀ e ∈ hdrPairs p, isCL e = true → e.2 = natToDec 0) →
      ∃ raw, Px.Build.build bufSize Px.Gen.defaultDisableHeaders p none none = .ok raw ∧
        wfMessage true raw = true) ∧
    (p.isChunked = false → bodyTruthy p.body = true →
      (∀ e ∈ hdrPairs p, lower e.1 ≠ kTE) →
      (∀ e ∈ hdrPairs p, isCL e = true → e.2 = natToDec (p.body.getD []).length) →
      ∃ raw, Px.Build.build bufSize Px.Gen.defaultDisableHeaders p none none = .ok raw ∧
        wfMessage true raw = true) ∧
    (∀ bd, p.isChunked = true → p.body = some bd → (∃ e ∈ hdrPairs p, isTEChunked e = true) →
      ∃ raw, Px.Build.build bufSize Px.Gen.defaultDisableHeaders p none none = .ok raw ∧
        wfMessage true raw = true) := by
  have hline := startLineOK_req g.methodTok g.pathTok g.versionTok
  have hwfL : wfHeaders (hdrPairs p) = true := wfHeaders_namesOf g.hdrs
  refine ⟨fun hch hb hte hcl => ?_, fun hch hb hte hcl => ?_, fun bd hch hb hte => ?_⟩
  · exact ⟨_, build_req_pkt_nobody bufSize g hch hb, wfMessage_pkt true _ _ _ hline hwfL (framingOK_cl
      (List.any_eq_false.2 (fun e he => hte e he ▸ Bool.false_ne_true)) hcl (.inr rfl))⟩
  · exact ⟨_, build_req_pkt_cl bufSize g hch hb hte,
      wfMessage_pkt true _ _ _ hline (wfHeaders_dSet_cl hwfL (wfValue_natToDec _)) (framingOK_cl
        (dSet_cl_noTE _ hte) (forall_mem_dSet hcl (fun _ => rfl))
        (.inl (List.any_eq_true.2 ⟨_, mem_dSet_self _ _ _, isCL_nCL _⟩)))⟩
  · obtain ⟨enc, henc, hok⟩ := chunkedOK_toChunks bd bufSize (Nat.pos_of_ne_zero hbs)
    obtain ⟨t, ht, htc⟩ := hte
    exact ⟨_, build_req_pkt_chunked bufSize g hch hb henc ht htc,
      wfMessage_pkt true _ _ _ hline hwfL (framingOK_chunked (List.any_eq_true.2 ⟨t, ht, htc⟩) hok)⟩

/-- the check is not vacuous: `POST / HTTP/1.1`, `Transfer-Encoding: chunked`, payload `0 CRLF CRLF`
    passes; the same message without the terminator (D4) does not;
    nor does a chunked payload followed by a trailer field -/
example : wfMessage true ([80, 79, 83, 84, 32, 47, 32, 72, 84, 84, 80, 47, 49, 46, 49, 13, 10] ++
    [84, 69, 58, 32, 120, 13, 10] ++
    [84, 114, 97, 110, 115, 102, 101, 114, 45, 69, 110, 99, 111, 100, 105, 110, 103, 58, 32, 99, 104, 117, 110, 107, 101, 100, 13, 10] ++
    [13, 10] ++ [48, 13, 10, 13, 10]) = true := by decide +kernel
example : wfMessage true ([80, 79, 83, 84, 32, 47, 32, 72, 84, 84, 80, 47, 49, 46, 49, 13, 10] ++
    [84, 114, 97, 110, 115, 102, 101, 114, 45, 69, 110, 99, 111, 100, 105, 110, 103, 58, 32, 99, 104, 117, 110, 107, 101, 100, 13, 10] ++
    [13, 10]) = false := by decide +kernel
example : wfMessage true ([80, 79, 83, 84, 32, 47, 32, 72, 84, 84, 80, 47, 49, 46, 49, 13, 10] ++
    [84, 114, 97, 110, 115, 102, 101, 114, 45, 69, 110, 99, 111, 100, 105, 110, 103, 58, 32, 99, 104, 117, 110, 107, 101, 100, 13, 10] ++
    [13, 10] ++ [48, 13, 10, 84, 58, 32, 118, 13, 10, 13, 10]) = false := by decide +kernel

/-- **D22** — chunked trailers are not understood: on `5 CRLF hello CRLF 0 CRLF Trailer: v CRLF CRLF`
    (a valid chunked body with a trailer part, RFC 7230 §4.1.2) the decoder completes at the
    last-chunk and hands the trailer `Trailer: v CRLF CRLF` back as unconsumed remainder (a
    reference decoder consumes it and returns an empty remainder). -/
theorem C15_witness_D22 :
    Px.Chunk.parse Px.Chunk.init
      [53, 13, 10, 104, 101, 108, 108, 111, 13, 10, 48, 13, 10,
       84, 114, 97, 105, 108, 101, 114, 58, 32, 118, 13, 10, 13, 10] =
    .ok ({ state := .complete, body := [104, 101, 108, 108, 111], chunk := [], size := none },
         [84, 114, 97, 105, 108, 101, 114, 58, 32, 118, 13, 10, 13, 10]) := by rfl

/-- the parsed form of `GET http://h//x HTTP/1.1`: path `//x` -/
def exDoubleSlash : Parser :=
  { ty := .request, state := .complete, method := some [71, 69, 84],
    version := some [72, 84, 84, 80, 47, 49, 46, 49], host := some [104], path := some [47, 47, 120] }

/-- **D24** — a path starting with `//`: `build()` writes `GET //x HTTP/1.1`, which the parser reads as a
    network-path reference: host `x`, **no path** — not the message that was rebuilt. -/
theorem C15_witness_D24 :
    ∃ raw r, Px.Build.build Px.Gen.defaultBufferSize Px.Gen.defaultDisableHeaders exDoubleSlash none none = .ok raw ∧
      raw = [71, 69, 84, 32, 47, 47, 120, 32, 72, 84, 84, 80, 47, 49, 46, 49, 13, 10, 13, 10] ∧
      parse {} (init .request) raw = .ok r ∧ r.state = .complete ∧
      r.path = none ∧ r.host = some [120] ∧ exDoubleSlash.path = some [47, 47, 120] := by
  obtain ⟨r, h1, h2⟩ := req_pkt {} (m := [71, 69, 84]) (u := [47, 47, 120])
    (v := [72, 84, 84, 80, 47, 49, 46, 49]) (H := []) (B := []) (url := { scheme := some (b "http"), hostname := some [120] })
    (by decide +kernel) (by decide +kernel) (by decide +kernel) rfl rfl (.nobody rfl (fun _ he => nomatch he))
  exact ⟨_, r, rfl, rfl, h1, h2.state_eq, h2.path_eq, h2.host_eq, rfl⟩

end Px.Codec

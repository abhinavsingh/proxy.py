import PxModel.Intercept
/-! C11: where each effect in the log of `on_request_complete` comes from (`mem_onConnect`, `mem_wrapClient`),
    and what the guarded steps of certificate generation do to the cache.  The classes of effects
    (`Eff.isAsk`, `Eff.isGen`, …) and `IsCertCall` are also the words the C11 statements are written in. -/
namespace Px.Intercept
open Px Px.Pki

/-- a `do_intercept` question -/
def Eff.isAsk : Eff → Bool
  | .ask _ => true
  | _ => false

/-- made by `wrap_client`: a step of `generate_upstream_certificate`, or the client-side wrap itself -/
def Eff.isGen : Eff → Bool
  | .isfile _ _ | .openssl _ _ | .wrapClient _ _ _ _ => true
  | _ => false

/-- touches the certificate cache: an `os.path.isfile` probe or an openssl invocation -/
def Eff.isCache : Eff → Bool
  | .isfile _ _ | .openssl _ _ => true
  | _ => false

theorem Eff.isCache_isGen (e : Eff) (h : e.isCache = true) : e.isGen = true := by
  cases e <;> simp_all [Eff.isCache, Eff.isGen]

def Eff.isOpenssl : Eff → Bool
  | .openssl _ _ => true
  | _ => false

theorem chainAux_asks (l : List (Option Bool)) (i : Nat) (cur : Option Bool) :
    ∀ e ∈ (chainAux i cur l).2, e.isAsk = true := by
  induction l generalizing i cur with
  | nil => exact fun _ h => nomatch h
  | cons a rest ih =>
    rw [chainAux]
    split
    · exact List.forall_mem_singleton.2 rfl
    · exact List.forall_mem_cons.2 ⟨rfl, ih _ _⟩

theorem chainAux_val (l : List (Option Bool)) (i : Nat) (cur : Option Bool) :
    (chainAux i cur l).1 = if some false ∈ l then some false else l.getLast?.getD cur := by
  induction l generalizing i cur with
  | nil => rfl
  | cons a rest ih =>
    rw [chainAux, List.getLast?_cons, Option.getD_some]
    by_cases ha : a = some false
    · rw [if_pos ha, if_pos (List.mem_cons.2 (.inl ha.symm))]
    · rw [if_neg ha, ih]
      simp only [List.mem_cons, eq_comm (a := some false), ha, false_or]

theorem isTrue_iff {o : Option Bool} : isTrue o = true ↔ o = some true := by
  cases o with
  | none => simp [isTrue]
  | some v => cases v <;> simp [isTrue]

theorem tlsInterceptEnabled_asks (cfg : Cfg) (answers : List (Option Bool)) :
    ∀ e ∈ (tlsInterceptEnabled cfg answers).2, e.isAsk = true := by
  unfold tlsInterceptEnabled
  split
  · simp
  · exact chainAux_asks answers 0 (some true)

theorem genStep_present (env : Env) (fs : List Str) (k : Nat) (path : Str) (call : Str → Call)
    (hp : path ∈ fs) : genStep env fs k path call = ([.isfile path true], fs, k, .done) := by
  unfold genStep
  simp [hp]

theorem genStep_missing (env : Env) (fs : List Str) (k : Nat) (path : Str) (call : Str → Call)
    (hp : path ∉ fs) :
    (genStep env fs k path call).1 = [.isfile path false, .openssl (call (env.tmp k)) (env.cmd k)] ∧
    (genStep env fs k path call).2.1 = (if env.cmd k = .ok then fs ++ [(call (env.tmp k)).out] else fs) ∧
    ((genStep env fs k path call).2.2.2 = .done → env.cmd k = .ok) := by
  have hc : fs.contains path = false := by simpa using hp
  unfold genStep
  rw [hc]
  cases env.cmd k <;> simp

theorem genStep_effs (env : Env) (fs : List Str) (k : Nat) (path : Str) (call : Str → Call) :
    ∀ e ∈ (genStep env fs k path call).1, e.isCache = true ∧ ∀ c o, e = .openssl c o → c = call (env.tmp k) := by
  by_cases hp : path ∈ fs
  · rw [genStep_present env fs k path call hp]
    exact List.forall_mem_singleton.2 ⟨rfl, nofun⟩
  · rw [(genStep_missing env fs k path call hp).1]
    exact List.forall_mem_cons.2
      ⟨⟨rfl, nofun⟩, List.forall_mem_singleton.2 ⟨rfl, fun _ _ h => (Eff.openssl.inj h).1.symm⟩⟩

theorem genStep_done (env : Env) (fs : List Str) (k : Nat) (path : Str) (call : Str → Call)
    (hout : ∀ tmp, (call tmp).out = path)
    (h : (genStep env fs k path call).2.2.2 = .done) :
    path ∈ (genStep env fs k path call).2.1 := by
  by_cases hp : path ∈ fs
  · rw [genStep_present env fs k path call hp]; exact hp
  · obtain ⟨_, hfs, hd⟩ := genStep_missing env fs k path call hp
    rw [hfs, if_pos (hd h), hout]
    exact List.mem_append_right _ (List.mem_singleton_self _)

theorem genStep_mono (env : Env) (fs : List Str) (k : Nat) (path : Str) (call : Str → Call) (p : Str)
    (hp : p ∈ fs) : p ∈ (genStep env fs k path call).2.1 := by
  by_cases hpath : path ∈ fs
  · rw [genStep_present env fs k path call hpath]; exact hp
  · rw [(genStep_missing env fs k path call hpath).2.1]
    split
    · exact List.mem_append_left _ hp
    · exact hp

theorem andThen_mem (r : List Eff × List Str × Nat × GenEnd)
    (next : List Str → Nat → List Eff × List Str × Nat × GenEnd) (e : Eff)
    (h : e ∈ (andThen r next).1) : e ∈ r.1 ∨ e ∈ (next r.2.1 r.2.2.1).1 := by
  unfold andThen at h
  split at h
  · exact List.mem_append.1 h
  · exact Or.inl h

theorem andThen_done (r : List Eff × List Str × Nat × GenEnd)
    (next : List Str → Nat → List Eff × List Str × Nat × GenEnd)
    (h : (andThen r next).2.2.2 = .done) :
    (next r.2.1 r.2.2.1).2.2.2 = .done ∧ (andThen r next).2.1 = (next r.2.1 r.2.2.1).2.1 := by
  unfold andThen at h ⊢
  split at h
  · exact ⟨h, rfl⟩
  · rename_i hd; exact absurd h hd

/-! the three invocations of `gen_ca_signed_certificate`, named -/

def pubCall (cfg : Cfg) (env : Env) (host : Str) (tmp : Str) : Call :=
  genPublicKey env.isIp cfg.openssl (pubKeyPath (cfg.caCertDir.getD []) host) (cfg.caSigningKeyFile.getD []) []
    (buildSubject env.subject) (some [stripBrackets host]) none validityDays tmp

def csrCall (cfg : Cfg) (host : Str) : Call :=
  genCsr cfg.openssl (csrPath (cfg.caCertDir.getD []) host) (cfg.caSigningKeyFile.getD []) []
    (pubKeyPath (cfg.caCertDir.getD []) host)

def signCall (cfg : Cfg) (env : Env) (host : Str) (tmp : Str) : Call :=
  signCsr env.isIp cfg.openssl (csrPath (cfg.caCertDir.getD []) host) (certFilePath (cfg.caCertDir.getD []) host)
    (cfg.caKeyFile.getD []) [] (cfg.caCertFile.getD []) env.serial (some [stripBrackets host]) none validityDays tmp

/-- one of the three openssl invocations of `gen_ca_signed_certificate` for `host`: public key,
    signing request, CA signature -/
def IsCertCall (cfg : Cfg) (env : Env) (host : Str) (c : Call) : Prop :=
  (∃ tmp, c = pubCall cfg env host tmp) ∨ c = csrCall cfg host ∨ (∃ tmp, c = signCall cfg env host tmp)

theorem genCaSigned_effs (cfg : Cfg) (env : Env) (host : Str) (fs : List Str) :
    ∀ e ∈ (genCaSigned cfg env host fs).1,
      e.isCache = true ∧ ∀ c o, e = .openssl c o → IsCertCall cfg env host c := by
  intro e he
  unfold genCaSigned at he
  rcases andThen_mem _ _ e he with he | he
  · rcases andThen_mem _ _ e he with he | he
    · exact (genStep_effs _ _ _ _ _ e he).imp_right fun h c o ec => .inl ⟨_, h c o ec⟩
    · exact (genStep_effs _ _ _ _ _ e he).imp_right fun h c o ec => .inr (.inl (h c o ec))
  · exact (genStep_effs _ _ _ _ _ e he).imp_right fun h c o ec => .inr (.inr ⟨_, h c o ec⟩)

theorem genCaSigned_done (cfg : Cfg) (env : Env) (host : Str) (fs : List Str)
    (h : (genCaSigned cfg env host fs).2.2.2 = .done) :
    certFilePath (cfg.caCertDir.getD []) host ∈ (genCaSigned cfg env host fs).2.1 := by
  unfold genCaSigned at h ⊢
  obtain ⟨h3, heq⟩ := andThen_done _ _ h
  rw [heq]
  exact genStep_done _ _ _ _ _ (fun _ => rfl) h3

theorem generate_some (cfg : Cfg) (env : Env) (host : Str) (effs : List Eff) (fs : List Str) (g : GenEnd)
    (h : generateUpstreamCertificate cfg env host = some (effs, fs, g)) :
    (certFilePath (cfg.caCertDir.getD []) host ∈ env.fs ∧
      effs = [.isfile (certFilePath (cfg.caCertDir.getD []) host) true] ∧ fs = env.fs ∧ g = .done) ∨
    (certFilePath (cfg.caCertDir.getD []) host ∉ env.fs ∧
      effs = .isfile (certFilePath (cfg.caCertDir.getD []) host) false :: (genCaSigned cfg env host env.fs).1 ∧
      fs = (genCaSigned cfg env host env.fs).2.1 ∧ g = (genCaSigned cfg env host env.fs).2.2.2) := by
  unfold generateUpstreamCertificate at h
  split at h
  · cases h
  · dsimp only at h
    split at h
    · rename_i hc
      obtain ⟨rfl, rfl, rfl⟩ := Prod.mk.inj (Option.some.inj h) |>.imp_right Prod.mk.inj
      exact .inl ⟨List.contains_iff_mem.1 hc, rfl, rfl, rfl⟩
    · rename_i hc
      obtain ⟨rfl, rfl, rfl⟩ := Prod.mk.inj (Option.some.inj h) |>.imp_right Prod.mk.inj
      exact .inr ⟨fun hm => hc (List.contains_iff_mem.2 hm), rfl, rfl, rfl⟩

theorem generate_effs (cfg : Cfg) (env : Env) (host : Str) (effs : List Eff) (fs : List Str) (g : GenEnd)
    (h : generateUpstreamCertificate cfg env host = some (effs, fs, g)) :
    ∀ e ∈ effs, e.isCache = true ∧ ∀ c o, e = .openssl c o → IsCertCall cfg env host c := by
  rcases generate_some cfg env host effs fs g h with ⟨_, rfl, _⟩ | ⟨_, rfl, _⟩
  · exact List.forall_mem_singleton.2 ⟨rfl, nofun⟩
  · exact List.forall_mem_cons.2 ⟨⟨rfl, nofun⟩, genCaSigned_effs _ _ _ _⟩

theorem generate_warm (cfg : Cfg) (env : Env) (host : Str)
    (hflags : (truthy cfg.caCertDir && truthy cfg.caSigningKeyFile && truthy cfg.caCertFile && truthy cfg.caKeyFile) = true)
    (hw : certFilePath (cfg.caCertDir.getD []) host ∈ env.fs) :
    generateUpstreamCertificate cfg env host =
      some ([.isfile (certFilePath (cfg.caCertDir.getD []) host) true], env.fs, .done) := by
  unfold generateUpstreamCertificate
  simp [hflags, hw]

theorem generate_done (cfg : Cfg) (env : Env) (host : Str) (effs : List Eff) (fs : List Str)
    (h : generateUpstreamCertificate cfg env host = some (effs, fs, .done)) :
    certFilePath (cfg.caCertDir.getD []) host ∈ fs := by
  rcases generate_some cfg env host effs fs .done h with ⟨hw, _, rfl, _⟩ | ⟨_, _, rfl, hd⟩
  · exact hw
  · exact genCaSigned_done _ _ _ _ hd.symm

/-- `e` is an effect of `generate_upstream_certificate` for `host`, which leaves the files `fs`, or the
    client-side wrap that follows a generation that ran to its end. -/
def FromGeneration (cfg : Cfg) (env : Env) (host : Str) (e : Eff) (fs : List Str) : Prop :=
  ∃ effs g, generateUpstreamCertificate cfg env host = some (effs, fs, g) ∧
    (e ∈ effs ∨ (g = .done ∧ e = .wrapClient (cfg.caSigningKeyFile.getD [])
      (certFilePath (cfg.caCertDir.getD []) host) [ack] env.clientWrap))

theorem mem_wrapClient (cfg : Cfg) (env : Env) (host : Str) (e : Eff) (h : e ∈ (wrapClient cfg env host).1) :
    FromGeneration cfg env host e (wrapClient cfg env host).2.fs := by
  unfold wrapClient at h ⊢
  cases hg : generateUpstreamCertificate cfg env host with
  | none => rw [hg] at h; cases h
  | some r =>
    obtain ⟨effs, fs, g⟩ := r
    rw [hg] at h
    cases g with
    | assertion => exact ⟨effs, _, hg, .inl h⟩
    | timeout => exact ⟨effs, _, hg, .inl h⟩
    | done =>
      have hm : e ∈ effs ++ [.wrapClient (cfg.caSigningKeyFile.getD [])
          (certFilePath (cfg.caCertDir.getD []) host) [ack] env.clientWrap] := by
        cases hcw : env.clientWrap <;> simpa [hcw] using h
      have hf : FromGeneration cfg env host e fs :=
        ⟨effs, .done, hg, (List.mem_append.1 hm).imp id fun h => ⟨rfl, List.mem_singleton.1 h⟩⟩
      cases env.clientWrap <;> exact hf

theorem wrapClient_gen (cfg : Cfg) (env : Env) (host : Str) : ∀ e ∈ (wrapClient cfg env host).1, e.isGen = true := by
  intro e he
  obtain ⟨effs, g, hg, h | ⟨_, rfl⟩⟩ := mem_wrapClient cfg env host e he
  · exact Eff.isCache_isGen e (generate_effs cfg env host effs _ g hg e h).1
  · rfl

theorem wrapClient_ssl (cfg : Cfg) (env : Env) (host : Str) (h : (wrapClient cfg env host).2.res = .sslSocket) :
    (wrapClient cfg env host).2.clientTls = true ∧ (wrapClient cfg env host).2.upstreamTls = true ∧
    (wrapClient cfg env host).2.clientBuf = [] ∧
    Eff.wrapClient (cfg.caSigningKeyFile.getD []) (certFilePath (cfg.caCertDir.getD []) host) [ack] .ok
      ∈ (wrapClient cfg env host).1 := by
  unfold wrapClient at h ⊢
  split at h
  · cases h
  · cases h
  · cases h
  · cases hcw : env.clientWrap <;> simp [hcw] at h ⊢

theorem onConnect_ok (cfg : Cfg) (answers : List (Option Bool)) (env : Env) (host : Str)
    (hon : (tlsInterceptEnabled cfg answers).1 = true)
    (hh : env.handshake (upstreamParams cfg host) = .ok) :
    onConnect cfg answers env host =
      (.queueClient ack :: ((tlsInterceptEnabled cfg answers).2 ++
          .wrapUpstream (upstreamParams cfg host) .ok :: (wrapClient cfg env host).1),
       (wrapClient cfg env host).2) := by
  simp [onConnect, hon, intercept, hh]

theorem onConnect_fail (cfg : Cfg) (answers : List (Option Bool)) (env : Env) (host : Str)
    (hon : (tlsInterceptEnabled cfg answers).1 = true)
    (hh : env.handshake (upstreamParams cfg host) ≠ .ok) :
    onConnect cfg answers env host =
      (.queueClient ack :: ((tlsInterceptEnabled cfg answers).2 ++
          [.wrapUpstream (upstreamParams cfg host) (env.handshake (upstreamParams cfg host))]),
       { res := if env.handshake (upstreamParams cfg host) = .osError then .raised .osError else .teardown,
         clientTls := false, upstreamTls := false, upstreamDetached := true, clientBuf := [ack], fs := env.fs }) := by
  simp only [onConnect, hon, if_true, intercept]
  cases h : env.handshake (upstreamParams cfg host) <;> simp_all

theorem onConnect_off (cfg : Cfg) (answers : List (Option Bool)) (env : Env) (host : Str)
    (hoff : (tlsInterceptEnabled cfg answers).1 = false) :
    onConnect cfg answers env host =
      (.queueClient ack :: (tlsInterceptEnabled cfg answers).2,
       { res := .plain, clientTls := false, upstreamTls := false, upstreamDetached := false,
         clientBuf := [ack], fs := env.fs }) := by
  simp [onConnect, hoff]

theorem mem_onConnect (cfg : Cfg) (answers : List (Option Bool)) (env : Env) (host : Str) :
    ∀ e ∈ (onConnect cfg answers env host).1,
      e = .queueClient ack ∨ e.isAsk = true ∨
      ((tlsInterceptEnabled cfg answers).1 = true ∧
        (e = .wrapUpstream (upstreamParams cfg host) (env.handshake (upstreamParams cfg host)) ∨
         (env.handshake (upstreamParams cfg host) = .ok ∧ e ∈ (wrapClient cfg env host).1 ∧
          (onConnect cfg answers env host).2 = (wrapClient cfg env host).2))) := by
  cases hon : (tlsInterceptEnabled cfg answers).1 with
  | false =>
    rw [onConnect_off cfg answers env host hon]
    exact List.forall_mem_cons.2 ⟨.inl rfl, fun e h => .inr (.inl (tlsInterceptEnabled_asks cfg answers e h))⟩
  | true =>
    by_cases hh : env.handshake (upstreamParams cfg host) = .ok
    · rw [onConnect_ok cfg answers env host hon hh]
      exact List.forall_mem_cons.2 ⟨.inl rfl, List.forall_mem_append.2
        ⟨fun e h => .inr (.inl (tlsInterceptEnabled_asks cfg answers e h)),
         List.forall_mem_cons.2 ⟨.inr (.inr ⟨rfl, .inl (hh ▸ rfl)⟩), fun e h => .inr (.inr ⟨rfl, .inr ⟨hh, h, rfl⟩⟩)⟩⟩⟩
    · rw [onConnect_fail cfg answers env host hon hh]
      exact List.forall_mem_cons.2 ⟨.inl rfl, List.forall_mem_append.2
        ⟨fun e h => .inr (.inl (tlsInterceptEnabled_asks cfg answers e h)),
         List.forall_mem_singleton.2 (.inr (.inr ⟨rfl, .inl rfl⟩))⟩⟩

theorem gen_mem_onConnect (cfg : Cfg) (answers : List (Option Bool)) (env : Env) (host : Str) (e : Eff)
    (h : e ∈ (onConnect cfg answers env host).1) (hg : e.isGen = true) :
    FromGeneration cfg env host e (onConnect cfg answers env host).2.fs := by
  rcases mem_onConnect cfg answers env host e h with rfl | h | ⟨_, rfl | ⟨_, h, hp⟩⟩
  · cases hg
  · cases e with
    | ask i => cases hg
    | _ => cases h
  · cases hg
  · rw [hp]; exact mem_wrapClient cfg env host e h

end Px.Intercept

import PxModel.WfResponse
import PxProofs.HexLemmas
/-! What the RFC 7230 checker `WF_response` needs of single bytes and lines to read back what
    `Px.Build.buildPkt` prints: a line ends at its CRLF, a name at its colon, and `str(n)` is `1*DIGIT`. -/
namespace Px.Wf

theorem lowerB_eq (x : Bytes) : lowerB x = Px.lower x := rfl

theorem digit_field {c : UInt8} (h : isDigit c = true) : isFieldByte c = true := by
  simp only [isDigit, Bool.and_eq_true, decide_eq_true_eq] at h
  simp only [isFieldByte, Bool.or_eq_true, Bool.and_eq_true, decide_eq_true_eq]
  exact Or.inl (Or.inr ⟨UInt8.le_trans (by decide) h.1, UInt8.le_trans h.2 (by decide)⟩)

theorem digit_not_ows {c : UInt8} (h : isDigit c = true) : isOws c = false := by
  simp [isOws, ne_of_class h (d := 32), ne_of_class h (d := 9)]

theorem cutLine_render (l r : Bytes) (h : ∀ c ∈ l, c ≠ 13) : cutLine (l ++ 13 :: 10 :: r) = some (l, r) := by
  induction l with
  | nil => simp [cutLine]
  | cons c t ih =>
    have hc : c ≠ 13 := h c (by simp)
    have := ih (fun x hx => h x (by simp [hx]))
    simp [cutLine, hc, this]

theorem cutAt_render (sep : UInt8) (k r : Bytes) (h : ∀ c ∈ k, c ≠ sep) : cutAt sep (k ++ sep :: r) = some (k, r) := by
  induction k with
  | nil => simp [cutAt]
  | cons c t ih =>
    have hc : c ≠ sep := h c (by simp)
    have := ih (fun x hx => h x (by simp [hx]))
    simp [cutAt, hc, this]

theorem dropWhile_none {p : UInt8 → Bool} (x : Bytes) (h : ∀ c ∈ x, p c = false) : x.dropWhile p = x := by
  cases x with
  | nil => rfl
  | cons c t => simp [List.dropWhile, h c (by simp)]

theorem trimOWS_sp (v : Bytes) (h : ∀ c ∈ v, isOws c = false) : trimOWS (32 :: v) = v := by
  unfold trimOWS
  have h1 : (32 :: v).dropWhile isOws = v := by
    simp only [List.dropWhile, show isOws 32 = true by decide]
    exact dropWhile_none v h
  rw [h1, dropWhile_none v.reverse (fun c hc => h c (by simpa using hc))]
  simp

/-- a decimal digit as `int()` reads it is a `DIGIT` of the grammar, with the same value -/
theorem digit_of_isDigitIn {c : UInt8} (h : isDigitIn 10 c = true) :
    isDigit c = true ∧ (digitVal c).getD 0 = c.toNat - 48 := by
  unfold isDigitIn at h
  unfold digitVal at h ⊢
  by_cases hd : (48 ≤ c && c ≤ 57) = true
  · rw [if_pos hd]
    exact ⟨hd, rfl⟩
  · -- a letter's value is at least 10
    rw [if_neg hd] at h
    by_cases hl : (97 ≤ c && c ≤ 122) = true
    · rw [if_pos hl] at h
      simp [UInt8.le_iff_toNat_le] at hl h
      omega
    · rw [if_neg hl] at h
      by_cases hu : (65 ≤ c && c ≤ 90) = true
      · rw [if_pos hu] at h
        simp [UInt8.le_iff_toNat_le] at hu h
        omega
      · rw [if_neg hu] at h
        cases h

theorem natToDec_all_digit (n : Nat) : (natToDec n).all isDigit = true :=
  List.all_eq_true.mpr fun c hc => (digit_of_isDigitIn (natToDec_isDigit n c hc)).1

theorem decNat_digits {x : Bytes} (hne : x ≠ []) (h : ∀ c ∈ x, isDigitIn 10 c = true) :
    decNat x = some (digitsVal 10 0 x) := by
  have hv : ∀ (l : Bytes) (a : Nat), (∀ c ∈ l, isDigitIn 10 c = true) →
      l.foldl (fun a c => a * 10 + (c.toNat - 48)) a = digitsVal 10 a l := by
    intro l
    induction l with
    | nil => intro a _; rfl
    | cons c t ih =>
      intro a hl
      rw [List.foldl_cons, digitsVal_cons, (digit_of_isDigitIn (hl c (by simp))).2]
      exact ih _ fun x hx => hl x (by simp [hx])
  have hd : x.all isDigit = true := List.all_eq_true.mpr fun c hc => (digit_of_isDigitIn (h c hc)).1
  rw [decNat, hd, List.isEmpty_eq_false_iff.mpr hne, hv x 0 h]
  rfl

theorem decNat_natToDec (n : Nat) : decNat (natToDec n) = some n := by
  rw [natToDec_eq, decNat_digits (decDigits_spec n).1 (decDigits_spec n).2.1, (decDigits_spec n).2.2]

theorem natToDec_no_ows (n : Nat) : ∀ c ∈ natToDec n, isOws c = false :=
  fun c hc => digit_not_ows (List.all_eq_true.mp (natToDec_all_digit n) c hc)

theorem natToDec_field (n : Nat) : (natToDec n).all isFieldByte = true :=
  List.all_eq_true.mpr fun c hc => digit_field (List.all_eq_true.mp (natToDec_all_digit n) c hc)

theorem natToDec3 (n : Nat) (h1 : 100 ≤ n) (h2 : n ≤ 999) :
    ∃ a b c, natToDec n = [a, b, c] ∧ isDigit a = true ∧ isDigit b = true ∧ isDigit c = true ∧
      (a.toNat - 48) * 100 + (b.toNat - 48) * 10 + (c.toNat - 48) = n := by
  obtain ⟨a, b, c, e⟩ : ∃ a b c, natToDec n = [a, b, c] := by
    -- two divisions by ten reach a single digit
    rw [natToDec_eq, decDigits, if_neg (by omega), decDigits, if_neg (by omega), decDigits, if_pos (by omega)]
    exact ⟨_, _, _, rfl⟩
  have hd := natToDec_all_digit n
  have hv := decNat_natToDec n
  rw [e] at hd hv
  simp only [List.all_cons, List.all_nil, Bool.and_true, Bool.and_eq_true] at hd
  refine ⟨a, b, c, e, hd.1, hd.2.1, hd.2.2, ?_⟩
  simp only [decNat, List.all_cons, hd, List.all_nil, List.isEmpty_cons, Bool.not_false, Bool.and_self, if_true,
    List.foldl_cons, List.foldl_nil, Option.some.injEq] at hv
  omega

end Px.Wf

import PxProofs.ParserAppend
/-!
# Termination of `HttpParser.parse` (for C06)

`Px.Parser.loop` models the `while more and self.state != COMPLETE` loop of
`HttpParser.parse` with fuel `len(raw) + 8`; the fuel is never what stops the loop.
`loopX` is `loop` with a flag telling whether it stopped because the `while` condition
became false; under the parser invariant `Px.Parser.Inv` (which holds for a fresh parser and
is preserved by every `parse` call) the flag is always `true`: every round that does not end
the loop lowers `Px.Parser.rank`, which is at most 5 (`Px.Parser.stepOnce_inv`).

The invariant excludes the state behind the hang of finding D18: a positive
`content_expected` whose Content-Length header says something else, so that the body
branch consumes nothing and never completes.  The chunked decoder has its own loop,
`Px.Chunk.loop`; its fuel lemma is `Px.Chunk.loop_fuel` in `PxProofs/ChunkLemmas.lean` (C03).
-/
namespace Px.ParseFuel

open Px.Parser

/-- `loop` with a flag: `true` = stopped because `more` was false or the state COMPLETE,
    `false` = stopped only because the fuel ran out -/
def loopX (cfg : Cfg) : Nat → Parser → Bool → Bytes → Except Err (Parser × Bytes × Bool)
  | 0, p, more, raw => .ok (p, raw, !more || p.state == .complete)
  | fuel + 1, p, more, raw =>
    if !more || p.state == .complete then .ok (p, raw, true)
    else match stepOnce cfg p raw with
      | .error e => .error e
      | .ok (p, more, raw) => loopX cfg fuel p more raw

theorem loopX_loop (cfg : Cfg) (fuel : Nat) (p : Parser) (more : Bool) (raw : Bytes) :
    loop cfg fuel p more raw =
      (match loopX cfg fuel p more raw with
       | .ok r => .ok (r.1, r.2.1)
       | .error e => .error e) := by
  induction fuel generalizing p more raw with
  | zero => simp [loop, loopX]
  | succ f ih =>
    unfold loop loopX
    split
    · rfl
    · cases hs : stepOnce cfg p raw with
      | error e => rfl
      | ok r =>
        obtain ⟨p', more', raw'⟩ := r
        simp only
        exact ih p' more' raw'

/-- the loop ended for a reason the Python `while` also has -/
def Natural : Except Err (Parser × Bytes × Bool) → Prop
  | .ok r => r.2.2 = true
  | .error _ => True

theorem loopX_exit (cfg : Cfg) (f : Nat) (p : Parser) (more : Bool) (raw : Bytes)
    (h : more = false ∨ p.state = .complete) : Natural (loopX cfg f p more raw) := by
  have hc : (!more || p.state == .complete) = true := by
    rcases h with h | h <;> simp [h]
  cases f <;> simp [loopX, Natural, hc]

theorem loopX_natural (cfg : Cfg) (fuel : Nat) (p : Parser) (more : Bool) (raw : Bytes) (hi : Inv p)
    (hf : rank p raw < fuel) : Natural (loopX cfg fuel p more raw) := by
  induction fuel generalizing p more raw with
  | zero => omega
  | succ f ih =>
    unfold loopX
    split
    · simp [Natural]
    · next hgo =>
      have hnc : p.state ≠ .complete := by
        intro hc; simp [hc] at hgo
      cases hs : stepOnce cfg p raw with
      | error e => simp [Natural]
      | ok r =>
        obtain ⟨p', more', raw'⟩ := r
        simp only
        obtain ⟨hi', hd⟩ := stepOnce_inv cfg hi hnc hs
        rcases hd with h' | h' | h'
        · exact loopX_exit cfg f p' more' raw' (Or.inl h')
        · exact loopX_exit cfg f p' more' raw' (Or.inr h')
        · exact ih p' more' raw' hi' (by omega)

/-- `HttpParser.parse`, instrumented like `loopX` -/
def parseX (cfg : Cfg) (p : Parser) (raw : Bytes) : Except Err (Parser × Bytes × Bool) :=
  let size := raw.length
  let p := { p with totalSize := p.totalSize + size }
  let raw := match p.buffer with
    | some bf => if bf.isEmpty then raw else bf ++ raw
    | none => raw
  let p := { p with buffer := none }
  loopX cfg (raw.length + 8) p (size > 0) raw

theorem parseX_parse (cfg : Cfg) (p : Parser) (raw : Bytes) :
    parse cfg p raw =
      (match parseX cfg p raw with
       | .ok r => .ok { r.1 with buffer := if r.2.1.isEmpty then none else some r.2.1 }
       | .error e => .error e) := by
  unfold parse parseX
  simp only [loopX_loop]
  generalize loopX cfg _ _ _ _ = r
  cases r <;> rfl

theorem parseAll_wf (cfg : Cfg) (segs : List Bytes) (p q : Parser) (hw : WF p)
    (h : parseAll cfg p segs = .ok q) : WF q :=
  parseAll_preserves cfg (parse_wf cfg) hw h

/-- the inner loop of `_process_headers` runs with fuel `len(raw) + 1`, one unit per line of at
    least two bytes -/
theorem processHeaders_fuel (f g : Nat) (p : Parser) (raw : Bytes) (hf : raw.length < f) (hg : raw.length < g) :
    processHeaders f p raw = processHeaders g p raw :=
  Px.Parser.processHeaders_fuel f g p raw hf hg

end Px.ParseFuel

import PxProofs.PersistSeg
/-!
# C04: the reverse proxy on a stream of requests, routes answered by the plugin itself, any packing

`rrun_stream`: on segments that cut a first request (`RevFirstOk`) and follow-ups (`RevLaterOk`) anywhere,
`rrun` ends in `RevDone`: every request answered in order, no upstream connection.
-/
namespace Px.Persist
open Px Px.Parser Px.Reverse

/-- in every plugin the first matching route (if any) is a dynamic route whose `handle_route`
    returns a literal response -/
def litOnly (m : Nat → Bool) (t : Table) : Bool :=
  t.all (fun p => match firstMatch m p with
    | none => true
    | some (.dynamic _ (.literal _)) => true
    | _ => false)

def litResps (m : Nat → Bool) (t : Table) : List Bytes :=
  t.filterMap (fun p => match firstMatch m p with
    | some (.dynamic _ (.literal r)) => some r
    | _ => none)

theorem routeLoop_lit (cfg : Reverse.Cfg) (m : Nat → Bool) (pick : Nat → Nat) (t : Table) (i : Nat) (s : Reverse.St)
    (needs : Bool) (h : litOnly m t = true) :
    routeLoop cfg m pick i t s needs =
      ({ s with client := { s.client with buffer := s.client.buffer ++ litResps m t } }, needs, none) := by
  induction t generalizing i s with
  | nil => simp [routeLoop, litResps]
  | cons p ps ih =>
    simp only [litOnly, List.all_cons, Bool.and_eq_true] at h
    obtain ⟨h1, hps⟩ := h
    unfold routeLoop
    -- the three cases of `litOnly`'s test on the plugin's first matching route
    split at h1
    · next hf =>
      simp only [hf]
      rw [ih _ _ hps]
      simp [litResps, hf]
    · next pat resp hf =>
      simp only [hf, routeAct]
      rw [ih _ _ hps]
      simp [litResps, hf, Conn.queue, List.append_assoc]
    · cases h1

theorem handleRequest_lit (cfg : Reverse.Cfg) (m : Nat → Bool) (pick : Nat → Nat) (ok : Bool) (t : Table)
    (req : Parser) (s : Reverse.St) (hp : req.path.isSome = true) (h : litOnly m t = true) :
    handleRequest cfg m pick ok t req s =
      ⟨{ s with client := { s.client with buffer := s.client.buffer ++ litResps m t } }, false, none⟩ := by
  unfold handleRequest
  have : req.path.isNone = false := by
    cases hpp : req.path <;> simp [hpp] at hp ⊢
  simp only [this, Bool.false_and, Bool.false_eq_true, if_false, routeLoop_lit cfg m pick t 0 s false h]

theorem onRequestComplete_lit (cfg : Reverse.Cfg) (m : Nat → Bool) (pick : Nat → Nat) (ok : Bool) (t : Table)
    (req : Parser) (s : Reverse.St) (hp : req.path.isSome = true) (hu : Px.Url.utf8Valid (Reverse.webPath req) = true)
    (hm : anyMatch m t = true) (h : litOnly m t = true) :
    onRequestComplete cfg m pick ok t req s =
      ⟨{ s with client := { s.client with buffer := s.client.buffer ++ litResps m t } }, false, none⟩ := by
  unfold onRequestComplete routeRequest
  rw [if_neg (by rw [hu]; simp), if_pos hm]
  exact handleRequest_lit cfg m pick ok t req s hp h

def revAnswer (cfg : RCfg) (first : Bool) (P : Parser) : List Bytes :=
  litResps (cfg.matchPat (if first then webPath P else revPath P)) cfg.table

def RevFirstOk (cfg : RCfg) (x : Bytes) (P : Parser) : Prop :=
  oneReq x = some P ∧ isWebRequest P = true ∧ isWebsocketUpgrade P = false ∧ P.path.isSome = true ∧
  Px.Url.utf8Valid (webPath P) = true ∧ anyMatch (cfg.matchPat (webPath P)) cfg.table = true ∧
  litOnly (cfg.matchPat (webPath P)) cfg.table = true ∧ isKeepAlive P = true

def RevLaterOk (cfg : RCfg) (r : Bytes × Parser) : Prop :=
  oneReq r.1 = some r.2 ∧ r.2.path.isSome = true ∧ litOnly (cfg.matchPat (revPath r.2)) cfg.table = true ∧
  isKeepAlive r.2 = true

def rstepL (cfg : RCfg) (s : RSt) (P : Parser) : RSt :=
  afterHandle s (handleRequest cfg.rv (cfg.matchPat (revPath P)) (fun _ => 0) true cfg.table P s.rv)

theorem rstepL_lit (cfg : RCfg) (s : RSt) (P : Parser) (hp : P.path.isSome = true)
    (hl : litOnly (cfg.matchPat (revPath P)) cfg.table = true) :
    rstepL cfg s P =
      { s with rv := { s.rv with client := { s.rv.client with buffer := s.rv.client.buffer ++ revAnswer cfg false P } },
               handled := s.handled + 1 } := by
  unfold rstepL
  rw [handleRequest_lit cfg.rv _ _ true cfg.table P s.rv hp hl]
  simp [afterHandle, revAnswer]

theorem rfirst_lit (cfg : RCfg) (q P : Parser) (hp : P.path.isSome = true)
    (hu : Px.Url.utf8Valid (webPath P) = true) (hm : anyMatch (cfg.matchPat (webPath P)) cfg.table = true)
    (hl : litOnly (cfg.matchPat (webPath P)) cfg.table = true) :
    rfirst cfg { request := q } P =
      { phase := .routed, request := q, handled := 1, rv := { client := { buffer := revAnswer cfg true P } } } := by
  have hinv : (Px.Url.utf8Valid (webPath P) && anyMatch (cfg.matchPat (webPath P)) cfg.table) = true := by
    rw [hu, hm]; rfl
  unfold rfirst
  simp only [hinv, if_true, onRequestComplete_lit cfg.rv _ (fun _ => 0) true cfg.table P ({} : Reverse.St) hp hu hm hl,
    afterHandle]
  simp [revAnswer]

def RevLive (s : RSt) : Prop := s.phase = .routed ∧ isKeepAlive s.request = true

theorem rev_good (cfg : RCfg) (r : Bytes × Parser) (h : RevLaterOk cfg r) (s : RSt) (n : Nat) (hI : RevLive s) :
    (revHooks cfg).complete s (withTotal r.2 n) = .next (rstepL cfg s (withTotal r.2 n)) none ∧
    RevLive (rstepL cfg s (withTotal r.2 n)) := by
  obtain ⟨_, hp, hl, hk⟩ := h
  have hI' : RevLive (rstepL cfg s (withTotal r.2 n)) := by
    rw [rstepL_lit cfg s (withTotal r.2 n) hp hl]; exact hI
  have hk' : isKeepAlive (withTotal r.2 n) = true := hk
  refine ⟨?_, hI'⟩
  -- still routed after `handle_request`, and the request is keep-alive: none of the hook's tests stops the loop
  have hph := hI'.1
  unfold rstepL at hph
  simp only [revHooks, hph, hk']
  rfl

theorem rst_eta_phase (s : RSt) : ({ s with phase := s.phase } : RSt) = s := by cases s; rfl

theorem foldl_rstep (cfg : RCfg) (rs : Reqs) (ns : List Nat) (hn : ns.length = rs.length)
    (hl : ∀ r ∈ rs, RevLaterOk cfg r) (s : RSt) :
    (handed rs ns).foldl (rstepL cfg) s =
      { s with handled := s.handled + rs.length,
               rv := { s.rv with client := { s.rv.client with
                 buffer := s.rv.client.buffer ++ (rs.map (fun r => revAnswer cfg false r.2)).flatten } } } := by
  induction rs generalizing ns s with
  | nil => cases ns <;> simp [handed]
  | cons r rs ih =>
    cases ns with
    | nil => simp at hn
    | cons n ns =>
      obtain ⟨_, hp, hlit, _⟩ := hl r (by simp)
      simp only [handed, List.foldl_cons]
      rw [rstepL_lit cfg s (withTotal r.2 n) hp hlit, ih ns (by simpa using hn) (fun r' hr' => hl r' (by simp [hr']))]
      have : revAnswer cfg false (withTotal r.2 n) = revAnswer cfg false r.2 := rfl
      simp [this, List.append_assoc, Nat.add_assoc, Nat.add_comm 1]

theorem rrun_later (cfg : RCfg) (segs : List Bytes) {tl : Reqs}
    (hl : ∀ r ∈ tl, RevLaterOk cfg r) (hflat : segs.flatten = stream tl) (s : RSt) (hI : RevLive s) :
    rrun cfg (s, none) (segs.map .cseg) =
      ({ s with handled := s.handled + tl.length,
                rv := { s.rv with client := { s.rv.client with
                  buffer := s.rv.client.buffer ++ (tl.map (fun r => revAnswer cfg false r.2)).flatten } } }, none) := by
  obtain ⟨ns, hns, h⟩ := loopSegs_all (revHooks cfg) (rstepL cfg) RevLive (fun _ _ _ _ => rfl)
    (fun st segs => rrun cfg st (segs.map .cseg))
    (fun s pl x xs s' pl' hI hp => by
      -- in a `RevLive` state `rstep` on a client segment is the loop call
      have : rstep cfg (s, pl) (.cseg x) = (s', pl') := by
        simp only [rstep, hI.1, rdata, hI.2, Bool.not_true, Bool.false_eq_true, if_false, hp, endPhase]
        simp
      rw [List.map_cons, rrun, this])
    segs tl (fun r hr' => (hl r hr').1) (fun r hr' s n hI => rev_good cfg r (hl r hr') s n hI)
    [] none (.idle tl) (by simpa using hflat) s hI
  rw [h, foldl_rstep cfg tl ns hns hl]; rfl

structure RevDone (cfg : RCfg) (P₁ : Parser) (tl : Reqs) (S : RSt × Option Parser) : Prop where
  routed : S.1.phase = .routed
  idle : S.2 = none
  handled : S.1.handled = 1 + tl.length
  connects : S.1.rv.connects = []
  upstream : S.1.rv.upstream = none
  answers : S.1.rv.client.buffer = revAnswer cfg true P₁ ++ (tl.map (fun r => revAnswer cfg false r.2)).flatten

theorem rrun_stream (cfg : RCfg) (x₁ : Bytes) (P₁ : Parser) (tl : Reqs)
    (h1 : RevFirstOk cfg x₁ P₁) (hl : ∀ r ∈ tl, RevLaterOk cfg r)
    (segs : List Bytes) (hne : ∀ seg ∈ segs, seg ≠ []) (hflat : segs.flatten = x₁ ++ stream tl) :
    RevDone cfg P₁ tl (rrun cfg ({}, none) (segs.map .cseg)) := by
  obtain ⟨ho, hw, hws, hpa, hutf, hm, hlit, hka⟩ := h1
  refine first_request ho (stream tl)
    (M := fun p segs => RevDone cfg P₁ tl (rrun cfg ({ request := p }, none) (segs.map .cseg)))
    ?_ ?_ segs hne hflat
  · intro p seg segs p' hp' hnc ih
    have : rstep cfg ({ request := p }, none) (.cseg seg) = ({ request := p' }, none) := by
      simp only [rstep, hp', hnc, if_true]
      simp
    rwa [List.map_cons, rrun, this]
  · intro p seg segs n b hp' hnc hrest
    -- what `rstep` asks of the completed request does not depend on byte counter and leftover
    have cw : isWebRequest { withTotal P₁ n with buffer := b } = true := hw
    have cws : isWebsocketUpgrade { withTotal P₁ n with buffer := b } = false := hws
    have cutf : Px.Url.utf8Valid (webPath { withTotal P₁ n with buffer := b }) = true := hutf
    have hrf : ∀ q : Parser, rfirst cfg { request := q } { withTotal P₁ n with buffer := b } =
        { phase := .routed, request := q, handled := 1,
          rv := { client := { buffer := revAnswer cfg true P₁ } } } :=
      fun q => rfirst_lit cfg q _ hpa hutf hm hlit
    -- what followed the request in its segment is one more segment
    let s1 : RSt := { phase := .routed, request := { withTotal P₁ n with buffer := none }, handled := 1,
                      rv := { client := { buffer := revAnswer cfg true P₁ } } }
    have hw1 : rrun cfg ({ request := p }, none) ((seg :: segs).map .cseg) =
        rrun cfg (s1, none) ((b.toList ++ segs).map .cseg) := by
      rw [List.map_cons, rrun]
      simp only [rstep, hp', hnc, Bool.false_eq_true, if_false, cw, cws, cutf, Bool.not_true, Bool.and_false,
        Bool.or_self, hrf]
      cases b <;> rfl
    rw [hw1, rrun_later cfg _ hl hrest s1 ⟨rfl, hka⟩]
    exact ⟨rfl, rfl, rfl, rfl, rfl, rfl⟩

end Px.Persist

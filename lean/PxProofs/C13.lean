import PxModel.StaticPath
import PxProofs.StaticLemmas
import PxProofs.Lit
/-!
# C13 — the static file server never serves anything outside its directory

The model (`PxModel/StaticPath.lean`) is tied to `proxy/http/server/web.py`
(`on_request_complete`, `_try_static_or_404`), `proxy/http/server/plugin.py`
(`serve_static_file`), `proxy/http/responses.py` (`okResponse`) and CPython's
`os.path.normpath` by the correspondence check `harness/c13.py`.

Guard of the theorems: `ProperAbs dir` — `--static-server-dir` is an absolute
path (in any spelling: dot segments, repeated and trailing separators, two
leading slashes) and does not normalise to the file-system root.  Request
paths, file systems, mime tables, compressors and compression thresholds are
arbitrary.  Symbolic links are outside the model (`fs` is keyed by the lexical
string handed to `open()`), relative static directories are outside the guard
(see `C13_relative_root_not_confined`).
-/
namespace Px.Static

/-- `t` lies strictly inside the normalised root of `dir`, lexically: it is
the root followed by `/` and at least one further component, all its
components are names other than `.` and `..`, and it is spelled canonically
(no empty component, no trailing separator). -/
def Confined (dir t : Str) : Prop :=
  ∃ cs, cs ≠ [] ∧ AllClean cs ∧
    pathComps t = rootComps dir ++ cs ∧
    AllClean (pathComps t) ∧
    t = lead (normpath dir) ++ joinSep (pathComps t) ∧
    t = normpath dir ++ '/' :: joinSep cs

/-- the location the specification assigns to a request path -/
def specTarget (dir path : Str) : Str :=
  lead (normpath dir) ++ joinSep (resolve (rootComps dir) path)

/-- **Specification = code.**  The string the code computes with two
`os.path.normpath` calls is the root's leading slashes followed by the
components the independent stack machine `resolve` gives (query removed). -/
theorem C13_resolve_eq_normpath (dir path : Str) (h : ProperAbs dir) :
    targetOf dir path = specTarget dir path ∧ AllClean (resolve (rootComps dir) path) :=
  ⟨(decide_spec dir path h).target, (decide_spec dir path h).clean⟩

/-- **Decision characterised.**  The file system is consulted — with exactly
the specification's target — iff the dot-segment-resolved path lies strictly
inside the root. -/
theorem C13_decide_iff (dir path t : Str) (h : ProperAbs dir) :
    decide dir path = .openFile t ↔
      Inside (rootComps dir) (resolve (rootComps dir) path) ∧ t = specTarget dir path := by
  obtain ⟨_, ht, hiff⟩ := decide_spec dir path h
  rw [decide, specTarget, ← ht, ← hiff]
  by_cases ha : allowed dir (targetOf dir path) = true <;> simp [ha, eq_comm]

theorem confined_of_decide (dir path t : Str) (h : ProperAbs dir) (hd : decide dir path = .openFile t) :
    Confined dir t := by
  obtain ⟨hin, ht⟩ := (C13_decide_iff dir path t h).mp hd
  obtain ⟨cs, hcs, hres⟩ := (inside_iff _ _).mp hin
  have hf := normpath_abs_form dir h.1
  have hclean := (decide_spec dir path h).clean
  have hpc := pathComps_form _ hf.slashes _ hclean
  rw [← specTarget, ← ht] at hpc
  have hcsc : AllClean cs := fun c hc => hclean c (by rw [hres]; simp [hc])
  refine ⟨cs, hcs, hcsc, ?_, ?_, ?_, ?_⟩
  · rw [hpc.1, hres]
  · rw [hpc.1]; exact hclean
  · rw [hpc.1]; exact ht
  · rw [ht, specTarget, hres, joinSep_append _ _ h.2 hcs, ← List.append_assoc, ← hf.eq]

theorem serveFile_opened (env : Env) (t : Str) : (serveFile env t).opened = some t := by
  unfold serveFile
  split
  · rfl
  · split <;> rfl

theorem serveFile_ok_iff (env : Env) (t f : Str) (r : Ok) :
    serveFile env t = .ok f r ↔ f = t ∧ '\x00' ∉ t ∧ ∃ c, env.fs t = some c ∧ r = okResponse env t c := by
  unfold serveFile
  by_cases hn : '\x00' ∈ t
  · simp [hn]
  · cases env.fs t <;> simp [hn, eq_comm]

theorem serve_ok (env : Env) (dir path f : Str) (r : Ok) (hs : serve env dir path = .ok f r) :
    decide dir path = .openFile f ∧ '\x00' ∉ f ∧ ∃ c, env.fs f = some c ∧ r = okResponse env f c := by
  cases hd : decide dir path with
  | deny => simp [serve, hd] at hs
  | openFile t =>
    rw [serve, hd] at hs
    obtain ⟨rfl, h⟩ := (serveFile_ok_iff env t f r).mp hs
    exact ⟨rfl, h⟩

/-- **C13 confinement, at the `open()` call.**  Whatever path the model hands
to the file system — whether the open then succeeds, fails (404) or raises —
lies strictly inside the static root. -/
theorem C13_opened_confined (env : Env) (dir path t : Str) (h : ProperAbs dir)
    (ho : (serve env dir path).opened = some t) : Confined dir t := by
  cases hd : decide dir path with
  | deny => simp [serve, hd, Outcome.opened] at ho
  | openFile t' =>
    rw [serve, hd, serveFile_opened] at ho
    cases ho
    exact confined_of_decide dir path t h hd

/-- **C13 confinement.**  If the request path `path` is answered with the
content of file `f`, then `f` lies strictly inside the normalised root. -/
theorem C13_confined (env : Env) (dir path f : Str) (r : Ok) (h : ProperAbs dir)
    (hs : serve env dir path = .ok f r) : Confined dir f :=
  C13_opened_confined env dir path f h (by rw [hs]; rfl)

/-- **C13 escape ⇒ 404.**  If the dot-segment-resolved request path does not
lie strictly inside the root (parent-directory traversal in any spelling,
sibling directories whose name extends the root's, the root itself), the
answer is exactly `NOT_FOUND_RESPONSE_PKT` and `open()` is never called. -/
theorem C13_escape_404 (env : Env) (dir path : Str) (h : ProperAbs dir)
    (hout : ¬ Inside (rootComps dir) (resolve (rootComps dir) path)) :
    serve env dir path = .notFound none ∧
    (serve env dir path).pkt = some Gen.pkt_NOT_FOUND_RESPONSE_PKT ∧
    (serve env dir path).opened = none := by
  have hd : decide dir path = .deny := by
    cases hdd : decide dir path with
    | deny => rfl
    | openFile t => exact absurd ((C13_decide_iff dir path t h).mp hdd).1 hout
  rw [serve, hd]; exact ⟨rfl, rfl, rfl⟩

/-- **Non-UTF-8 ⇒ 400, nothing opened.**  A request path that `bytes.decode('utf-8')`
rejects is answered with exactly `BAD_REQUEST_RESPONSE_PKT`; no route is tried, no
static lookup happens, `open()` is never called. -/
theorem C13_nonutf8_rejected (env : Env) (cfg : Cfg) (req : Option Bytes)
    (h : utf8Decode (reqBytes req) = none) :
    onRequestComplete env cfg req = .badRequest ∧
    (onRequestComplete env cfg req).pkt = some Gen.pkt_BAD_REQUEST_RESPONSE_PKT ∧
    (onRequestComplete env cfg req).opened = none := by
  have : onRequestComplete env cfg req = .badRequest := by simp [onRequestComplete, h]
  rw [this]; exact ⟨rfl, rfl, rfl⟩

theorem onRequestComplete_decoded (env : Env) (cfg : Cfg) (req : Option Bytes) (s : Str)
    (h : utf8Decode (reqBytes req) = some s) :
    onRequestComplete env cfg req = if cfg.enableStatic then serve env cfg.dir s else .notFound none := by
  cases he : cfg.enableStatic <;> simp [onRequestComplete, h, he]

theorem onRequestComplete_cases (env : Env) (cfg : Cfg) (req : Option Bytes) :
    onRequestComplete env cfg req = .badRequest ∨ onRequestComplete env cfg req = .notFound none ∨
    cfg.enableStatic = true ∧ ∃ s, utf8Decode (reqBytes req) = some s ∧
      onRequestComplete env cfg req = serve env cfg.dir s := by
  cases hd : utf8Decode (reqBytes req) with
  | none => exact Or.inl (C13_nonutf8_rejected env cfg req hd).1
  | some s =>
    rw [onRequestComplete_decoded env cfg req s hd]
    cases cfg.enableStatic <;> simp

/-- the same through `on_request_complete`: the request path as bytes (`None`
or empty standing for `/`) that decode to `path` -/
theorem C13_escape_404_request (env : Env) (dir : Str) (req : Option Bytes) (path : Str) (h : ProperAbs dir)
    (hdec : utf8Decode (reqBytes req) = some path)
    (hout : ¬ Inside (rootComps dir) (resolve (rootComps dir) path)) :
    (onRequestComplete env ⟨true, dir⟩ req).pkt = some Gen.pkt_NOT_FOUND_RESPONSE_PKT := by
  rw [onRequestComplete_decoded env ⟨true, dir⟩ req path hdec, if_pos rfl]
  exact (C13_escape_404 env dir path h hout).2.1

/-- **Inside ⇒ served (the server is not vacuously safe).**  If the resolved
path lies strictly inside the root, `open()` is called with the
specification's target, and when that is a readable file without NUL in its
name the answer is the 200 response carrying it. -/
theorem C13_inside_served (env : Env) (dir path : Str) (h : ProperAbs dir)
    (hin : Inside (rootComps dir) (resolve (rootComps dir) path)) :
    (serve env dir path).opened = some (specTarget dir path) ∧
    ∀ c, (specTarget dir path).contains '\x00' = false → env.fs (specTarget dir path) = some c →
      serve env dir path = .ok (specTarget dir path) (okResponse env (specTarget dir path) c) := by
  have hd := (C13_decide_iff dir path _ h).mpr ⟨hin, rfl⟩
  rw [serve, hd]
  exact ⟨serveFile_opened env _, fun c hnul hfs =>
    (serveFile_ok_iff env _ _ _).mpr ⟨rfl, by simpa using hnul, c, hfs, rfl⟩⟩

theorem serve_query (env : Env) (dir p q : Str) : serve env dir (p ++ '?' :: q) = serve env dir p := by
  unfold serve decide targetOf; rw [queryStrip_query]

/-- **C13 query irrelevance.**  The query string never influences the answer. -/
theorem C13_query_irrelevant (env : Env) (dir p q : Str) (hp : '?' ∉ p) :
    serve env dir (p ++ '?' :: q) = serve env dir p :=
  serve_query env dir p q

def Ok.advertisesGzip (r : Ok) : Prop := (b "Content-Encoding", b "gzip") ∈ r.headers

instance (r : Ok) : Decidable r.advertisesGzip := by unfold Ok.advertisesGzip; infer_instance

def Ok.decoded (gunzip : Bytes → Bytes) (r : Ok) : Bytes :=
  if r.advertisesGzip then gunzip r.body else r.body

theorem contentEncoding_ne :
    b "Content-Encoding" ≠ b "Content-Type" ∧ b "Content-Encoding" ≠ b "Cache-Control" ∧
    b "Content-Encoding" ≠ b "Content-Length" ∧ b "Content-Encoding" ≠ b "Connection" := by
  rw [b_ofList, b_ofList, b_ofList, b_ofList, b_ofList]; decide +kernel

theorem advertises_iff (r : Ok) : r.advertisesGzip ↔ r.gz = true := by
  obtain ⟨h1, h2, h3, h4⟩ := contentEncoding_ne
  cases r with
  | mk ct gz body =>
    cases gz <;> simp [Ok.advertisesGzip, Ok.headers, h1, h2, h3, h4]

/-- **C13 content.**  A served body is the file's content, byte for byte,
after undoing the advertised content-encoding; compression is applied iff the
content is non-empty and longer than `min_compression_length`.  `gunzip` is any
left inverse of the compressor. -/
theorem C13_content (env : Env) (gunzip : Bytes → Bytes) (hgz : ∀ x, gunzip (env.gzip x) = x)
    (dir path f : Str) (r : Ok) (hs : serve env dir path = .ok f r) :
    ∃ c, env.fs f = some c ∧ r.decoded gunzip = c ∧
      (r.advertisesGzip ↔ r.gz = true) ∧
      (r.gz = true ↔ (c ≠ [] ∧ (c.length : Int) > env.mcl)) ∧
      (r.gz = true → r.body = env.gzip c) ∧ (r.gz = false → r.body = c) ∧
      (serve env dir path).pkt = some r.pkt := by
  obtain ⟨_, _, c, hfs, rfl⟩ := serve_ok env dir path f r hs
  refine ⟨c, hfs, ?_, advertises_iff _, ?_, ?_, ?_, by rw [hs]; rfl⟩
  · simp only [Ok.decoded, advertises_iff, okResponse]
    cases doCompress env.mcl c <;> simp [hgz]
  · simp [okResponse, doCompress]
  · intro hg; simp only [okResponse] at hg ⊢; simp [hg]
  · intro hg; simp only [okResponse] at hg ⊢; simp [hg]

/-- **Files outside the root cannot influence any answer.**  Two file systems
that agree on every path strictly inside the root give the same outcome for
every request. -/
theorem C13_fs_outside_irrelevant (env : Env) (fs' : Str → Option Bytes) (dir path : Str) (h : ProperAbs dir)
    (hagree : ∀ t, Confined dir t → env.fs t = fs' t) :
    serve env dir path = serve { env with fs := fs' } dir path := by
  unfold serve
  cases hd : decide dir path with
  | deny => rfl
  | openFile t =>
    have := hagree t (confined_of_decide dir path t h hd)
    simp only [serveFile, okResponse, this]

/-- static server disabled: every request without a route is answered 404
(400 when its path is not UTF-8) and the file system is not touched -/
theorem C13_disabled_404 (env : Env) (dir : Str) (req : Option Bytes) :
    (onRequestComplete env ⟨false, dir⟩ req = .notFound none ∨
      onRequestComplete env ⟨false, dir⟩ req = .badRequest) ∧
    (onRequestComplete env ⟨false, dir⟩ req).opened = none := by
  unfold onRequestComplete
  cases utf8Decode (reqBytes req) <;> simp [Outcome.opened]

/-- **C13 confinement for every byte string.**  Whatever bytes arrive as request
path (`None`, empty, NUL, non-UTF-8, overlong encodings), with the static server
on or off: any path handed to `open()` lies strictly inside the static root. -/
theorem C13_bytes_confined (env : Env) (en : Bool) (dir : Str) (req : Option Bytes) (t : Str)
    (h : ProperAbs dir) (ho : (onRequestComplete env ⟨en, dir⟩ req).opened = some t) :
    Confined dir t := by
  rcases onRequestComplete_cases env ⟨en, dir⟩ req with e | e | ⟨_, s, _, e⟩
  · rw [e] at ho; cases ho
  · rw [e] at ho; cases ho
  · rw [e] at ho; exact C13_opened_confined env dir s t h ho

/-- **NUL ⇒ 404, no content.**  A resolved static path containing a NUL is
answered `NOT_FOUND_RESPONSE_PKT` (`open()` raises ValueError before touching
the file system; `serve_static_file` catches it) — for every file system, even
one that had an entry under that name. -/
theorem C13_nul_not_served (env : Env) (t : Str) (h : '\x00' ∈ t) :
    serveFile env t = .notFound (some t) ∧
    (serveFile env t).pkt = some Gen.pkt_NOT_FOUND_RESPONSE_PKT := by
  have : serveFile env t = .notFound (some t) := by
    unfold serveFile; rw [if_pos (by simpa using h)]
  rw [this]; exact ⟨rfl, rfl⟩

/-- **Served files, for every byte string.**  If any byte string at all is
answered with file content, the file lies strictly inside the root, its name
has no NUL, and the bytes were valid UTF-8 for a text path that `serve` answers
the same way (so all text-level theorems apply). -/
theorem C13_bytes_served (env : Env) (en : Bool) (dir : Str) (req : Option Bytes) (f : Str) (r : Ok)
    (h : ProperAbs dir) (hs : onRequestComplete env ⟨en, dir⟩ req = .ok f r) :
    Confined dir f ∧ '\x00' ∉ f ∧ en = true ∧
    ∃ s, utf8Decode (reqBytes req) = some s ∧ serve env dir s = .ok f r := by
  rcases onRequestComplete_cases env ⟨en, dir⟩ req with e | e | ⟨hen, s, hd, e⟩
  · rw [e] at hs; cases hs
  · rw [e] at hs; cases hs
  · rw [e] at hs
    exact ⟨C13_confined env dir s f r h hs, (serve_ok env dir s f r hs).2.1, hen, s, hd, hs⟩

/-- **Every byte string is answered.**  No request path makes the model raise:
the outcome is one of the three packets (400, 404, 200 with the file). -/
theorem C13_bytes_answered (env : Env) (cfg : Cfg) (req : Option Bytes) :
    (onRequestComplete env cfg req).pkt.isSome = true := by
  cases h : onRequestComplete env cfg req <;> rfl

/-- **Overlong / out-of-range lead bytes ⇒ 400.**  Any path containing a byte
C0 or C1 (every two-byte overlong spelling: `c0 ae` = '.', `c0 af` = '/',
`c1 9c` = '\\', `c0 80` = NUL) or a byte F5..FF, anywhere, is rejected with 400
and nothing is opened. -/
theorem C13_overlong_rejected (env : Env) (cfg : Cfg) (req : Bytes) (hne : req ≠ [])
    (h : 0xC0 ∈ req ∨ 0xC1 ∈ req ∨ ∃ c ∈ req, 0xF5 ≤ c) :
    onRequestComplete env cfg (some req) = .badRequest := by
  have hr : reqBytes (some req) = req := by
    cases req with
    | nil => exact absurd rfl hne
    | cons x xs => rfl
  refine (C13_nonutf8_rejected env cfg (some req) ?_).1
  rw [hr]
  cases hd : utf8Decode req with
  | none => rfl
  | some s =>
    have hf := utf8Decode_forbidden req s hd
    rcases h with h | h | ⟨c, hc, hge⟩
    · exact absurd rfl (hf _ h).1
    · exact absurd rfl (hf _ h).2.1
    · exact absurd (hf c hc).2.2 (UInt8.not_lt.mpr hge)

/-- **No smuggling through the decoder.**  The characters below U+0080 include
every `/`, `.`, `?` and NUL, the only characters the confinement logic looks at:
no multi-byte sequence decodes to one of them. -/
theorem C13_no_smuggling (x : Bytes) (s : Str) (h : utf8Decode x = some s) :
    (s.filter (fun c => c.toNat < 128)).map Char.toNat = (x.filter (· < 0x80)).map UInt8.toNat :=
  utf8Decode_ascii x s h

/-- the three- and four-byte overlong spellings, surrogates, lone continuation
bytes, truncated sequences and code points above U+10FFFF are rejected; valid
multi-byte text (é, the full-width full stop U+FF0E, the division slash U+2215,
an emoji) decodes — to characters that are not `.` or `/` -/
example : utf8Decode [0x2f, 0xe0, 0x80, 0xaf] = none := by decide +kernel
example : utf8Decode [0x2f, 0xe0, 0x80, 0xae, 0xe0, 0x80, 0xae] = none := by decide +kernel
example : utf8Decode [0x2f, 0xf0, 0x80, 0x80, 0xaf] = none := by decide +kernel
example : utf8Decode [0x2f, 0xc0, 0xae, 0xc0, 0xae, 0xc0, 0xaf] = none := by decide +kernel
example : utf8Decode [0x2f, 0xed, 0xa0, 0x80] = none := by decide +kernel
example : utf8Decode [0x2f, 0xf4, 0x90, 0x80, 0x80] = none := by decide +kernel
example : utf8Decode [0x2f, 0x80] = none := by decide +kernel
example : utf8Decode [0x2f, 0xe2, 0x82] = none := by decide +kernel
example : utf8Decode [0x2f, 0xc3, 0xa9] = some ['/', 'é'] := by decide +kernel
example : utf8Decode [0xef, 0xbc, 0x8e, 0xe2, 0x88, 0x95] = some ['．', '∕'] := by decide +kernel
example : utf8Decode [0xf0, 0x9f, 0x98, 0x80] = some ['😀'] := by decide +kernel
/-- a NUL byte is text; the static lookup then answers 404 without content -/
example : utf8Decode [0x2f, 0x61, 0x00] = some ['/', 'a', '\x00'] := by decide +kernel
-- Here and below `String.toList` of a literal is not evaluated (that would run the UTF-8 encoder and then
-- the decoder over it): a literal is `String.ofList` of its characters, `String.toList_ofList` gives them
-- back, and the kernel computes the model on the character lists.
example : decide "/srv/www".toList ['/', 'a', '\x00'] = .openFile ("/srv/www/a".toList ++ ['\x00']) := by
  rw [String.toList_ofList, String.toList_ofList]; decide +kernel
example : decide "/srv/www".toList ['/', '.', '.', '\x00', '/', 's'] =
    .openFile ("/srv/www/..".toList ++ ['\x00', '/', 's']) := by
  rw [String.toList_ofList, String.toList_ofList]; decide +kernel
example : decide "/srv/www".toList ['/', '.', '.', '/', 's', '\x00'] = .deny := by
  rw [String.toList_ofList]; decide +kernel

theorem C13_normpath_abs_clean (p : Str) (h : p.head? = some '/') :
    (lead (normpath p) = ['/'] ∨ lead (normpath p) = ['/', '/']) ∧
    AllClean (pathComps (normpath p)) ∧
    normpath p = lead (normpath p) ++ joinSep (pathComps (normpath p)) := by
  obtain ⟨hini, hst, hn⟩ := normpath_abs_form p h
  exact ⟨hini, hst, hn⟩

theorem C13_normpath_idem_abs (p : Str) (h : p.head? = some '/') : normpath (normpath p) = normpath p := by
  obtain ⟨hini, hst, hn⟩ := normpath_abs_form p h
  rw [hn]; exact normpath_clean _ hini _ hst

/-! non-vacuity of the guard and of both sides of the decision -/

/-- `/srv/www` spelled with dot segments, a doubled and a trailing separator -/
example : ProperAbs "/srv//./x/../www/".toList := by
  rw [String.toList_ofList]; decide +kernel
example : ProperAbs "//srv/www".toList := by
  rw [String.toList_ofList]; decide +kernel
example : ¬ ProperAbs "/".toList := by
  rw [String.toList_ofList]; decide +kernel
example : ¬ ProperAbs "public".toList := by
  rw [String.toList_ofList]; decide +kernel

example : decide "/srv/www/".toList "/css/../index.html?v=1/../../x".toList
    = .openFile "/srv/www/index.html".toList := by
  rw [String.toList_ofList, String.toList_ofList, String.toList_ofList]; decide +kernel
example : decide "/srv/www".toList "/../www/a".toList = .openFile "/srv/www/a".toList := by
  rw [String.toList_ofList, String.toList_ofList, String.toList_ofList]; decide +kernel
example : decide "/srv/www".toList "/../secret".toList = .deny := by
  rw [String.toList_ofList, String.toList_ofList]; decide +kernel
example : decide "/srv/www".toList "/a/b/../../../secret".toList = .deny := by
  rw [String.toList_ofList, String.toList_ofList]; decide +kernel
example : decide "/srv/www".toList "//..//secret".toList = .deny := by
  rw [String.toList_ofList, String.toList_ofList]; decide +kernel
/-- a sibling directory whose name extends the root's name is outside -/
example : decide "/srv/www".toList "/../wwwx/s".toList = .deny := by
  rw [String.toList_ofList, String.toList_ofList]; decide +kernel
/-- the root itself is not served -/
example : decide "/srv/www".toList "/a/..".toList = .deny := by
  rw [String.toList_ofList, String.toList_ofList]; decide +kernel
/-- `%2e%2e` is a name, not a dot segment (no percent-decoding anywhere) -/
example : decide "/srv/www".toList "/%2e%2e/x".toList = .openFile "/srv/www/%2e%2e/x".toList := by
  rw [String.toList_ofList, String.toList_ofList, String.toList_ofList]; decide +kernel
example : Inside (rootComps "/srv/www".toList) (resolve (rootComps "/srv/www".toList) "/a/./b".toList) := by
  rw [String.toList_ofList, String.toList_ofList]; decide +kernel
example : ¬ Inside (rootComps "/srv/www".toList) (resolve (rootComps "/srv/www".toList) "/../wwwx".toList) := by
  rw [String.toList_ofList, String.toList_ofList]; decide +kernel

/-- **Why the guard asks for an absolute directory.**  With the relative
`--static-server-dir ..` the prefix test of the code accepts `../../x` for
the request `/../x` — the parent of the root.  (`os.path.normpath` keeps
leading `..` of a relative path, so "starts with `../`" no longer means
"below `..`".)  Reported as a finding outside C13's quantifier. -/
theorem C13_relative_root_not_confined :
    decide "..".toList "/../x".toList = .openFile "../../x".toList := by
  rw [String.toList_ofList, String.toList_ofList, String.toList_ofList]; decide +kernel

end Px.Static

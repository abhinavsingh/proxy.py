import PxProofs.C14
/-!
# C14, handler level: from the bytes of the first request to the connect call

`Same`: the parser fields that decide the destination (`host`, `port`, tunnel
flag, `url`, `version`) are written by the request line only — header and body
processing (`_process_headers`, `_process_body`, the completion logic of `parse`)
never change them, for ANY bytes that follow the request line.
`C14_end_to_end` composes this with `C14_roundtrip`, `C14_defaults`,
`C14_connect_addr`.
-/
namespace Px.Connect
open Px Px.Url Px.UrlL Px.Parser

structure Same (p q : Parser) : Prop where
  host : q.host = p.host
  port : q.port = p.port
  tunnel : q.isTunnel = p.isTunnel
  url : q.url = p.url
  version : q.version = p.version
  ty : q.ty = p.ty
  st : p.state ≠ .initialized → q.state ≠ .initialized

theorem loop_same {cfg : Cfg} (f : Nat) {p q : Parser} {more : Bool} {raw r : Bytes}
    (h : loop cfg f p more raw = .ok (q, r)) (hi : p.state ≠ .initialized) : Same p q := by
  obtain ⟨⟨_, _, _, _, _, _, rfl⟩, hq⟩ := loop_started cfg f h hi
  exact ⟨rfl, rfl, rfl, rfl, rfl, rfl, fun _ => hq⟩

theorem stepOnce_request_line (cfg : Cfg) (p : Parser) (m u v rest : Bytes) (url : Url)
    (hst : p.state = .initialized) (hty : p.ty = .request) (hne : m ≠ []) (hm : SP ∉ m) (hu : SP ∉ u)
    (hlf : ∀ c ∈ m ++ SP :: (u ++ SP :: v), c ≠ LF) (he : fromBytes cfg.allowedSchemes u = .ok url) :
    stepOnce cfg p (m ++ SP :: (u ++ SP :: v) ++ CRLF ++ rest) =
      .ok ({ setLineAttributes cfg { p with method := some m, isTunnel := p.isTunnel || m == cfg.connectMethod } url with
             version := some v, state := .lineRcvd }, !rest.isEmpty, rest) := by
  rw [stepOnce_eq, core_line _ hst, processLine_request cfg p m u v rest hty hne hm hu hlf, he]
  -- a request parser in state `lineRcvd`: neither completion check applies
  have hty' : (setLineAttributes cfg { p with method := some m, isTunnel := p.isTunnel || m == cfg.connectMethod } url).ty
      = .request := by
    unfold setLineAttributes; split <;> exact hty
  simp [Except.map, post, hty']

theorem setLineAttributes_of_tunnel (cfg : Cfg) {p p' : Parser} (url : Url) (h : p'.isTunnel = p.isTunnel) :
    (setLineAttributes cfg p' url).host = (setLineAttributes cfg p url).host ∧
      (setLineAttributes cfg p' url).port = (setLineAttributes cfg p url).port := by
  unfold setLineAttributes
  rw [h]
  split <;> exact ⟨rfl, rfl⟩

theorem parse_request_line (cfg : Cfg) (m u v rest : Bytes) (url : Url) {pf : Parser}
    (hne : m ≠ []) (hm : SP ∉ m) (hu : SP ∉ u) (hlf : ∀ c ∈ m ++ SP :: (u ++ SP :: v), c ≠ LF)
    (he : fromBytes cfg.allowedSchemes u = .ok url)
    (hpar : parse cfg (init .request) (m ++ SP :: (u ++ SP :: v) ++ CRLF ++ rest) = .ok pf) :
    let p0 : Parser := { init .request with method := some m, isTunnel := m == cfg.connectMethod }
    pf.isTunnel = (m == cfg.connectMethod) ∧
      pf.host = (setLineAttributes cfg p0 url).host ∧ pf.port = (setLineAttributes cfg p0 url).port := by
  intro p0
  have hlen : (m ++ SP :: (u ++ SP :: v) ++ CRLF ++ rest).length > 0 := by simp [CRLF]; omega
  unfold parse at hpar
  simp only [init, hlen, decide_true] at hpar
  split at hpar
  · simp at hpar
  · rename_i q r hl
    simp only [Except.ok.injEq] at hpar
    rw [loop_succ cfg _ (by simp), stepOnce_request_line cfg _ m u v rest url rfl rfl hne hm hu hlf he] at hl
    have hsame := loop_same _ hl (by simp)
    have hti : ∀ p0 : Parser, (setLineAttributes cfg p0 url).isTunnel = p0.isTunnel := by
      intro p0; unfold setLineAttributes; split <;> rfl
    subst hpar
    -- the parser the loop hands to `setLineAttributes` differs from `p0` in the byte counter only
    refine ⟨hsame.tunnel.trans ((hti _).trans (Bool.false_or _)),
      hsame.host.trans (setLineAttributes_of_tunnel cfg url ?_).1,
      hsame.port.trans (setLineAttributes_of_tunnel cfg url ?_).2⟩
    · exact Bool.false_or _
    · exact Bool.false_or _

/-- **C14 end to end.**  First request of a connection.  `rest` (header block, body) is
arbitrary, so the handler may still wait for more bytes or answer 400 (unknown HTTP
version, malformed header); `pool` is `--enable-conn-pool`. -/
theorem C14_end_to_end (cfg : Cfg) (m v rest : Bytes) (t : Target)
    (h : t.WF cfg.allowedSchemes) (hf : t.form ≠ .origin) (hd : cfg.defaultHttpPort ≠ 0) (hg : t.port ≠ some 0)
    (hne : m ≠ []) (hm : SP ∉ m) (hu : SP ∉ renderT t)
    (hlf : ∀ c ∈ m ++ SP :: (renderT t ++ SP :: v), c ≠ LF) (pool : Bool) :
    match handleFirst cfg pool [m ++ SP :: (renderT t ++ SP :: v) ++ CRLF ++ rest] with
    | .connected a tn _ =>
      a = ⟨t.host.bare, derivedPort cfg (m == cfg.connectMethod) t.port⟩ ∧ tn = (m == cfg.connectMethod)
    | .closeSilent => False
    | .reject502 => False
    | .incomplete => True
    | .reject400 => True := by
  cases hpar : parse cfg (init .request) (m ++ SP :: (renderT t ++ SP :: v) ++ CRLF ++ rest) with
  | error e => unfold handleFirst parseAll; rw [hpar]; trivial
  | ok pf =>
    obtain ⟨htun, hhost, hport⟩ :=
      parse_request_line cfg m (renderT t) v rest t.expected hne hm hu hlf (C14_roundtrip _ t h) hpar
    have hq := (C14_connect_addr cfg { init .request with method := some m, isTunnel := m == cfg.connectMethod }
      t h hf hd hg pool).1
    rw [connectUpstreamP_eq, ← hhost, ← hport] at hq
    rw [handleFirst_of_parseAll (p := pf) (by unfold parseAll; rw [hpar]; rfl), hq, htun]
    by_cases hc : (pf.state != PState.complete) = true
    · rw [if_pos hc]; trivial
    · rw [if_neg hc]
      rcases handlerProtocol pf with _ | _ | _ <;> simp

/-- hypotheses of `C14_end_to_end` are satisfiable (those of `C14_request_line` plus the guards),
    and the model does connect on such a request -/
example : exT1.WF ({} : Cfg).allowedSchemes ∧ exT1.form ≠ .origin ∧ ({} : Cfg).defaultHttpPort ≠ 0 ∧
    exT1.port ≠ some 0 ∧ SP ∉ b "GET" ∧ SP ∉ renderT exT1 ∧
    (∀ c ∈ b "GET" ++ SP :: (renderT exT1 ++ SP :: b "HTTP/1.1"), c ≠ LF) := by
  unfold exT1
  repeat rw [b_ofList]
  decide +kernel
example : handleFirst {} true [b "GET" ++ SP :: (renderT exT1 ++ SP :: b "HTTP/1.1") ++ CRLF ++ b "Host: x\r\n\r\n"] =
    .connected ⟨b "2001:DB8::a", 8080⟩ false (b "GET /x;y?z=[1] HTTP/1.1") := by
  unfold exT1
  repeat rw [b_ofList]
  decide +kernel

end Px.Connect

import PxModel.Chunk
import PxProofs.HexLemmas
/-!
# The chunked-transfer decoder model (`PxModel/Chunk.lean`)

`parse` is a fuel loop over `process`.  `process_cases` lists the ways one call can go, and what it
makes of more input.  Every call ends the loop or shortens stash + input (`process_dec`), so the
fuel is never exhausted: `parse` unfolds one `process` call
at a time (`parse_unfold`) and admits induction along the loop (`parse_induction`).  From these:
feeding `a ++ b` is feeding `a`, then `b` (`parse_append`); `parse` preserves the invariant `WF` of
resting states (`parse_wf`); a valid chunked body, in the grammar `ChunkedStream`, is decoded
completely (`parse_stream`).
-/
namespace Px.Chunk

/-- `line.split(b';', 1)[0]` -/
def szText (line : Bytes) : Bytes :=
  match splitOnce1 59 line with
  | none => line
  | some (l, _) => l

inductive LineKind | blank | bad | size (n : Nat)

def classify (line : Bytes) : LineKind :=
  if (strip line).isEmpty then .blank
  else match pyInt 16 (szText line) with
    | none => .bad
    | some sz => if sz < 0 then .bad else .size sz.toNat

/-- `x` is a proper prefix of CRLF (`b''` or `b'\r'`): too short to tell whether the CRLF that
    ends the body follows -/
def partialCRLF (x : Bytes) : Bool := x.length < 2 && startsWith CRLF x

def dropCRLF (x : Bytes) : Bytes := if x.take 2 == CRLF then x.drop 2 else x

theorem partialCRLF_of_two_le {x : Bytes} (h : 2 ≤ x.length) : partialCRLF x = false := by
  rw [partialCRLF, decide_eq_false (Nat.not_lt.2 h), Bool.false_and]

theorem partialCRLF_append {a : Bytes} (h : partialCRLF a = false) (b : Bytes) :
    partialCRLF (a ++ b) = false := by
  rcases a with _ | ⟨c, _ | ⟨d, t⟩⟩
  · cases h
  · cases b with
    | nil => exact h
    | cons d t => exact partialCRLF_of_two_le (Nat.le_add_left 2 _)
  · exact partialCRLF_of_two_le (Nat.le_add_left 2 _)

theorem dropCRLF_crlf (t : Bytes) : dropCRLF (CRLF ++ t) = t := rfl

theorem dropCRLF_of_partial {x : Bytes} (h : partialCRLF x = true) : dropCRLF x = x := by
  rcases x with _ | ⟨c, _ | ⟨d, t⟩⟩
  · rfl
  · have hne : ¬ ([c] == CRLF) = true := fun e => nomatch (List.cons.inj (bytes_beq.1 e)).2
    exact if_neg hne
  · rw [partialCRLF_of_two_le (Nat.le_add_left 2 _)] at h; cases h

theorem dropCRLF_append {a : Bytes} (h : partialCRLF a = false) (b : Bytes) :
    dropCRLF (a ++ b) = dropCRLF a ++ b := by
  rcases a with _ | ⟨c, _ | ⟨d, t⟩⟩
  · cases h
  · have hc : c ≠ 13 := by rintro rfl; cases h
    have keep : ∀ t, dropCRLF (c :: t) = c :: t := fun t =>
      have hne : ¬ (c :: t.take 1 == CRLF) = true := fun e => hc (List.cons.inj (bytes_beq.1 e)).1
      if_neg hne
    exact (keep b).trans (congrArg (· ++ b) (keep []).symm)
  · show (if [c, d] == CRLF then t ++ b else c :: d :: (t ++ b)) =
      (if [c, d] == CRLF then t else c :: d :: t) ++ b
    split <;> rfl

theorem dropCRLF_length_le (x : Bytes) : (dropCRLF x).length ≤ x.length := by
  unfold dropCRLF; split
  · simp only [List.length_drop]; omega
  · exact Nat.le_refl _

theorem process_wfs_none {c : Chunk} {x : Bytes} (hs : c.state = .waitingForSize)
    (h : splitCRLF (c.chunk ++ x) = none) :
    process c x = .ok ({ c with chunk := c.chunk ++ x }, []) := by
  simp only [process, hs, h]

theorem process_wfs_some {c : Chunk} {x line rest : Bytes} (hs : c.state = .waitingForSize)
    (h : splitCRLF (c.chunk ++ x) = some (line, rest)) :
    process c x = match classify line with
      | .blank => .ok ({ c with chunk := [] }, rest)
      | .bad => .error .valueError
      | .size n =>
        -- the last chunk is held back until the CRLF ending the body can be told apart
        if n == 0 && partialCRLF rest then .ok ({ c with chunk := c.chunk ++ x }, [])
        else .ok ({ c with chunk := [], size := some n, state := .waitingForData }, rest) := by
  simp only [process, hs, h, classify, szText, partialCRLF, Bool.and_assoc]
  by_cases hb : (strip line).isEmpty = true
  · simp only [hb, if_true]
  · simp only [hb, Bool.false_eq_true, if_false]
    cases pyInt 16 (match splitOnce1 59 line with | none => line | some (l, _) => l) with
    | none => rfl
    | some sz =>
      by_cases h0 : sz < 0
      · simp only [h0, if_true]
      · simp only [h0, if_false]

theorem process_wfd {c : Chunk} {x : Bytes} {n : Nat} (hs : c.state = .waitingForData)
    (hn : c.size = some n) (hle : c.chunk.length ≤ n) :
    process c x =
      if n - c.chunk.length ≤ x.length then
        .ok ({ state := if n == 0 then .complete else .waitingForSize,
               body := c.body ++ (c.chunk ++ x.take (n - c.chunk.length)), chunk := [], size := none },
             dropCRLF (x.drop (n - c.chunk.length)))
      else .ok ({ c with chunk := c.chunk ++ x }, []) := by
  simp only [process, hs, hn, dropCRLF, List.length_append, List.length_take, Nat.beq_eq_true_eq]
  by_cases hx : n - c.chunk.length ≤ x.length
  · rw [if_pos hx, if_pos (by rw [Nat.min_eq_left hx, Nat.add_sub_of_le hle])]
  · have hlt := Nat.lt_of_not_le hx
    have hne : c.chunk.length + x.length ≠ n := Nat.ne_of_lt (Nat.add_lt_of_lt_sub' hlt)
    rw [if_neg hx, if_neg (by rwa [Nat.min_eq_right (Nat.le_of_lt hlt)]),
      List.take_of_length_le (Nat.le_of_lt hlt), List.drop_eq_nil_of_le (Nat.le_of_lt hlt)]

theorem process_complete {c : Chunk} {x : Bytes} (hs : c.state = .complete) : process c x = .ok (c, x) := by
  simp only [process, hs]

/-- Well-formedness of a decoder state *between* `parse` calls: while waiting for
    chunk data the expected size is known and not yet reached.  (States waiting
    for a size may hold any stash; it is simply unread input.) -/
def Chunk.WF (c : Chunk) : Prop :=
  c.state = .waitingForData → ∃ n, c.size = some n ∧ c.chunk.length < n

/-- Invariant of the states *inside* the `parse` loop, with the input `x` still
    to be processed: additionally the transient "last chunk seen" state (size 0),
    which is only entered with enough look-ahead to decide about the final CRLF. -/
def Live (c : Chunk) (x : Bytes) : Prop :=
  c.state = .waitingForData → ∃ n, c.size = some n ∧
    (c.chunk.length < n ∨ (n = 0 ∧ c.chunk = [] ∧ partialCRLF x = false))

theorem Chunk.WF.live {c : Chunk} (h : c.WF) (x : Bytes) : Live c x := by
  intro hs; obtain ⟨n, h1, h2⟩ := h hs; exact ⟨n, h1, .inl h2⟩

theorem wf_init : init.WF := by intro h; simp [init] at h

theorem live_of_ne {c : Chunk} (x : Bytes) (h : c.state ≠ .waitingForData) : Live c x :=
  fun hs => absurd hs h

theorem Live.append {c : Chunk} {a : Bytes} (h : Live c a) (b : Bytes) : Live c (a ++ b) := by
  intro hs; obtain ⟨n, hn, h⟩ := h hs
  exact ⟨n, hn, h.imp_right fun ⟨h0, hk, hp⟩ => ⟨h0, hk, partialCRLF_append hp b⟩⟩

theorem live_data (c : Chunk) {n : Nat} {x : Bytes} (h : ¬ (n == 0 && partialCRLF x) = true) :
    Live { c with chunk := [], size := some n, state := .waitingForData } x := fun _ => ⟨n, rfl, by
  cases n with
  | zero => exact .inr ⟨rfl, rfl, Bool.eq_false_iff.2 fun hp => h (by rw [hp]; rfl)⟩
  | succ n => exact .inl (Nat.succ_pos n)⟩

theorem Live.chunk_le {c : Chunk} {x : Bytes} {n : Nat} (h : Live c x) (hs : c.state = .waitingForData)
    (hn : c.size = some n) : c.chunk.length ≤ n := by
  obtain ⟨m, hm, h⟩ := h hs
  cases hn.symm.trans hm
  rcases h with h | ⟨_, h, _⟩
  · exact Nat.le_of_lt h
  · simp [h]

/-- The ways a `process` call on live, non-empty input can go, and what the same call makes of the
    input with `b` appended: everything is stashed; an error, the same with `b`; or a step to `c'`
    that leaves `x'`, and with `b` leaves `x' ++ b` — except that, at a chunk boundary, a CRLF that
    `b` completes is already dropped. -/
theorem process_cases {c : Chunk} {x : Bytes} (hl : Live c x) (hx : x ≠ []) (hc : c.state ≠ .complete)
    (b : Bytes) :
    (process c x = .ok ({ c with chunk := c.chunk ++ x }, []) ∧ Chunk.WF { c with chunk := c.chunk ++ x }) ∨
    (∃ e, process c x = .error e ∧ process c (x ++ b) = .error e) ∨
    ∃ c' x' r, process c x = .ok (c', x') ∧ process c (x ++ b) = .ok (c', r) ∧ Live c' x' ∧ c'.chunk = [] ∧
      (c'.state = .complete ∨ x'.length < c.chunk.length + x.length) ∧
      (r = x' ++ b ∨ c'.state = .waitingForSize ∧ r = dropCRLF (x' ++ b)) := by
  have hst : c.state = .waitingForSize ∨ c.state = .waitingForData := by
    cases h : c.state
    · exact .inl rfl
    · exact .inr rfl
    · exact absurd h hc
  rcases hst with hs | hs
  · have hne : c.state ≠ .waitingForData := fun h => nomatch hs.symm.trans h
    cases hsp : splitCRLF (c.chunk ++ x) with
    | none => exact .inl ⟨process_wfs_none hs hsp, fun h => absurd h hne⟩
    | some p =>
      obtain ⟨line, rest⟩ := p
      have hsp' : splitCRLF (c.chunk ++ (x ++ b)) = some (line, rest ++ b) := by
        rw [← List.append_assoc]; exact splitCRLF_append_some hsp b
      -- the line and its CRLF are consumed
      have hlt : rest.length < c.chunk.length + x.length := by
        rw [← List.length_append, splitCRLF_some_length hsp]; omega
      rw [process_wfs_some hs hsp, process_wfs_some hs hsp']
      cases classify line with
      | blank => exact .inr (.inr ⟨_, _, _, rfl, rfl, live_of_ne _ hne, rfl, .inr hlt, .inl rfl⟩)
      | bad => exact .inr (.inl ⟨_, rfl, rfl⟩)
      | size n =>
        by_cases hh : (n == 0 && partialCRLF rest) = true
        · exact .inl ⟨if_pos hh, fun h => absurd h hne⟩
        · have hh' : ¬ (n == 0 && partialCRLF (rest ++ b)) = true := by
            simp only [Bool.and_eq_true, not_and, Bool.not_eq_true] at hh ⊢
            exact fun h0 => partialCRLF_append (hh h0) b
          exact .inr (.inr ⟨_, _, _, if_neg hh, if_neg hh', live_data c hh, rfl, .inr hlt, .inl rfl⟩)
  · obtain ⟨n, hn, hcase⟩ := hl hs
    have hle := hl.chunk_le hs hn
    by_cases hfull : n - c.chunk.length ≤ x.length
    · have hpab := (process_wfd (x := x ++ b) hs hn hle).trans
        (if_pos (Nat.le_trans hfull (by rw [List.length_append]; exact Nat.le_add_right _ _)))
      rw [List.take_append_of_le_length hfull, List.drop_append_of_le_length hfull] at hpab
      refine .inr (.inr ⟨_, _, _, (process_wfd hs hn hle).trans (if_pos hfull), hpab,
        live_of_ne _ (by split <;> nofun), rfl, ?_⟩)
      cases n with
      | zero =>
        have hp : partialCRLF x = false := hcase.elim (fun h => absurd h (Nat.not_lt_zero _)) (·.2.2)
        rw [Nat.zero_sub, List.drop_zero]
        exact ⟨.inl rfl, .inl (dropCRLF_append hp b)⟩
      | succ n =>
        -- a non-empty part of the non-empty input completes the chunk
        have hlt : c.chunk.length < n + 1 := hcase.elim id (fun h => absurd h.1 (Nat.succ_ne_zero n))
        have hd := dropCRLF_length_le (x.drop (n + 1 - c.chunk.length))
        rw [List.length_drop] at hd
        refine ⟨.inr (Nat.lt_of_le_of_lt hd (Nat.lt_of_lt_of_le
          (Nat.sub_lt (List.length_pos_iff.2 hx) (Nat.sub_pos_of_lt hlt)) (Nat.le_add_left _ _))), ?_⟩
        by_cases hp : partialCRLF (x.drop (n + 1 - c.chunk.length)) = true
        · exact .inr ⟨rfl, by rw [dropCRLF_of_partial hp]⟩
        · exact .inl (dropCRLF_append (Bool.eq_false_iff.2 hp) b)
    · exact .inl ⟨(process_wfd hs hn hle).trans (if_neg hfull), fun _ => ⟨n, hn, by
        rw [List.length_append]; exact Nat.add_lt_of_lt_sub' (Nat.lt_of_not_le hfull)⟩⟩

theorem process_dec {c c' : Chunk} {x x' : Bytes} (hl : Live c x) (hx : x ≠ [])
    (hc : c.state ≠ .complete) (hp : process c x = .ok (c', x')) :
    Live c' x' ∧ ((x' = [] ∨ c'.state = .complete) ∨
      c'.chunk.length + x'.length < c.chunk.length + x.length) := by
  rcases process_cases hl hx hc [] with ⟨h, hw⟩ | ⟨e, h, -⟩ | ⟨c1, x1, r, h, -, hl', hk, hd, -⟩
  · cases h.symm.trans hp; exact ⟨hw.live _, .inl (.inl rfl)⟩
  · cases h.symm.trans hp
  · cases h.symm.trans hp
    rw [hk, List.length_nil, Nat.zero_add]
    exact ⟨hl', hd.elim (fun h => .inl (.inr h)) .inr⟩

theorem loop_done {c : Chunk} {x : Bytes} (h : x = [] ∨ c.state = .complete) (f : Nat) :
    loop f c x = .ok (c, x) := by
  cases f with
  | zero => rfl
  | succ f =>
    rw [loop]
    rcases h with h | h <;> simp [h]

theorem loop_succ {c : Chunk} {x : Bytes} (hx : x ≠ []) (hc : c.state ≠ .complete) (f : Nat) :
    loop (f + 1) c x = match process c x with
      | .error e => .error e
      | .ok (c', x') => loop f c' x' := by
  rw [loop]
  have : (x.isEmpty || c.state == .complete) = false := by
    simp [hx, hc]
  simp only [this, Bool.false_eq_true, if_false]
  cases process c x with
  | error e => rfl
  | ok p => rfl

/-- fuel above `stash + input` is never exhausted: any two such amounts give the same result -/
theorem loop_fuel {c : Chunk} {x : Bytes} (hl : Live c x) {f1 f2 : Nat}
    (h1 : (x = [] ∨ c.state = .complete) ∨ c.chunk.length + x.length < f1)
    (h2 : (x = [] ∨ c.state = .complete) ∨ c.chunk.length + x.length < f2) :
    loop f1 c x = loop f2 c x := by
  induction f1 generalizing f2 c x with
  | zero =>
    have hd := h1.resolve_right (Nat.not_lt_zero _)
    rw [loop_done hd, loop_done hd]
  | succ f1 ih =>
    by_cases hd : x = [] ∨ c.state = .complete
    · rw [loop_done hd, loop_done hd]
    · have h1 := Nat.le_of_lt_succ (h1.resolve_left hd)
      cases f2 with
      | zero => exact absurd (h2.resolve_left hd) (Nat.not_lt_zero _)
      | succ f2 =>
        have h2 := Nat.le_of_lt_succ (h2.resolve_left hd)
        have hx : x ≠ [] := fun h => hd (.inl h)
        have hc : c.state ≠ .complete := fun h => hd (.inr h)
        rw [loop_succ hx hc, loop_succ hx hc]
        cases hp : process c x with
        | error e => rfl
        | ok p =>
          obtain ⟨hl', hdec⟩ := process_dec hl hx hc hp
          exact ih hl' (hdec.imp_right (Nat.lt_of_lt_of_le · h1)) (hdec.imp_right (Nat.lt_of_lt_of_le · h2))

theorem parse_done {c : Chunk} {x : Bytes} (h : x = [] ∨ c.state = .complete) :
    parse c x = .ok (c, x) := loop_done h _

theorem parse_unfold {c : Chunk} {x : Bytes} (hl : Live c x) (hx : x ≠ [])
    (hc : c.state ≠ .complete) :
    parse c x = match process c x with
      | .error e => .error e
      | .ok (c', x') => parse c' x' := by
  unfold parse
  rw [loop_succ hx hc]
  cases hp : process c x with
  | error e => rfl
  | ok p =>
    obtain ⟨hl', hdec⟩ := process_dec hl hx hc hp
    exact loop_fuel hl' hdec (.inr (Nat.lt_succ_self _))

theorem parse_induction {motive : Chunk → Bytes → Prop}
    (done : ∀ c x, Live c x → x = [] ∨ c.state = .complete → motive c x)
    (step : ∀ c x, Live c x → x ≠ [] → c.state ≠ .complete →
      (∀ c' x', process c x = .ok (c', x') → Live c' x' ∧ motive c' x') → motive c x)
    {c : Chunk} {x : Bytes} (hl : Live c x) : motive c x := by
  generalize hm : c.chunk.length + x.length = m
  induction m using Nat.strongRecOn generalizing c x with
  | ind m ih =>
    by_cases hd : x = [] ∨ c.state = .complete
    · exact done c x hl hd
    · have hx : x ≠ [] := fun h => hd (.inl h)
      have hc : c.state ≠ .complete := fun h => hd (.inr h)
      refine step c x hl hx hc fun c' x' hp => ?_
      obtain ⟨hl', hdec⟩ := process_dec hl hx hc hp
      refine ⟨hl', hdec.elim (done c' x' hl') fun h => ih _ (hm ▸ h) hl' rfl⟩

def andThen (r : Except Err (Chunk × Bytes)) (b : Bytes) : Except Err (Chunk × Bytes) :=
  match r with
  | .error e => .error e
  | .ok (c', r) => match parse c' b with
    | .error e => .error e
    | .ok (c'', r') => .ok (c'', r ++ r')

theorem andThen_ok_nil (c : Chunk) (b : Bytes) : andThen (.ok (c, [])) b = parse c b := by
  unfold andThen; simp only [List.nil_append]
  cases parse c b with
  | error e => rfl
  | ok p => rfl

theorem andThen_complete {c : Chunk} (hc : c.state = .complete) (r b : Bytes) :
    andThen (.ok (c, r)) b = .ok (c, r ++ b) := by
  unfold andThen; simp only [parse_done (.inr hc)]

theorem process_stash {c : Chunk} {a : Bytes} (hc : c.state ≠ .complete)
    (hw : Chunk.WF { c with chunk := c.chunk ++ a }) (b : Bytes) :
    process { c with chunk := c.chunk ++ a } b = process c (a ++ b) := by
  cases hs : c.state with
  | complete => exact absurd hs hc
  | waitingForSize => simp only [process, hs, List.append_assoc]
  | waitingForData =>
    obtain ⟨n, hn, h⟩ := hw hs
    have hn : c.size = some n := hn
    have h : (c.chunk ++ a).length < n := h
    rw [List.length_append] at h
    have hle : a.length ≤ n - c.chunk.length := Nat.le_sub_of_add_le' (Nat.le_of_lt h)
    simp only [process, hs, hn, List.length_append, Nat.sub_add_eq, List.take_append, List.drop_append,
      List.take_of_length_le hle, List.drop_eq_nil_of_le hle, List.nil_append, List.append_assoc]

/-- the stash case of `parse_append`: `process c a` put everything back (so the state is still a
    resting one); more input re-reads it -/
theorem parse_stash {c : Chunk} {a : Bytes} (hl : Live c a) (ha : a ≠ []) (hc : c.state ≠ .complete)
    (hw : Chunk.WF { c with chunk := c.chunk ++ a })
    (hp : process c a = .ok ({ c with chunk := c.chunk ++ a }, [])) (b : Bytes) :
    parse c (a ++ b) = andThen (parse c a) b := by
  have hpa : parse c a = .ok ({ c with chunk := c.chunk ++ a }, []) := by
    rw [parse_unfold hl ha hc, hp]; exact parse_done (.inl rfl)
  rw [hpa, andThen_ok_nil]
  by_cases hb : b = []
  · subst hb; rw [List.append_nil, hpa, parse_done (.inl rfl)]
  · rw [parse_unfold (hl.append b) (fun h => ha (List.append_eq_nil_iff.1 h).1) hc,
      parse_unfold (hw.live _) hb hc, process_stash hc hw]

theorem classify_nil : classify [] = .blank := by
  simp [classify, strip, rstrip, lstrip]

theorem parse_skip_crlf {c : Chunk} (hs : c.state = .waitingForSize) (hk : c.chunk = []) (y : Bytes) :
    parse c (CRLF ++ y) = parse c y := by
  have hsp : splitCRLF (c.chunk ++ (CRLF ++ y)) = some ([], y) := by
    rw [hk]; exact splitCRLF_render (l := []) rfl y
  have hc : { c with chunk := [] } = c := by cases c; cases hk; rfl
  rw [parse_unfold (live_of_ne _ (by simp [hs])) (by simp [CRLF]) (by simp [hs]),
    process_wfs_some hs hsp, classify_nil]
  simp only [hc]

/-- a decoder at a chunk boundary reads a CRLF as a blank line, so the optional CRLF after chunk
    data may as well be left to it -/
theorem parse_dropCRLF {c : Chunk} (hs : c.state = .waitingForSize) (hk : c.chunk = []) (y : Bytes) :
    parse c (dropCRLF y) = parse c y := by
  unfold dropCRLF; split
  · rename_i h
    rw [← parse_skip_crlf hs hk, ← bytes_beq.1 h, List.take_append_drop]
  · rfl

theorem parse_append {c : Chunk} {a : Bytes} (hl : Live c a) (b : Bytes) :
    parse c (a ++ b) = andThen (parse c a) b := by
  refine parse_induction (motive := fun c a => parse c (a ++ b) = andThen (parse c a) b) ?_ ?_ hl
  · intro c a _ hd
    rcases hd with rfl | hs
    · rw [List.nil_append, parse_done (.inl rfl), andThen_ok_nil]
    · rw [parse_done (.inr hs), parse_done (.inr hs), andThen_complete hs]
  intro c a hl ha hc ih
  have hab : a ++ b ≠ [] := fun h => ha (List.append_eq_nil_iff.1 h).1
  rcases process_cases hl ha hc b with ⟨hpa, hw⟩ | hstep
  · exact parse_stash hl ha hc hw hpa b
  rw [parse_unfold (hl.append b) hab hc, parse_unfold hl ha hc]
  rcases hstep with ⟨e, hpa, hpab⟩ | ⟨c1, a1, r, hpa, hpab, -, hk, -, hr⟩
  · rw [hpab, hpa]; rfl
  · rw [hpab, hpa]
    refine Eq.trans ?_ (ih c1 a1 hpa).2
    rcases hr with rfl | ⟨hs, rfl⟩
    · rfl
    · exact parse_dropCRLF hs hk _

theorem live_done {c : Chunk} {x : Bytes} (hl : Live c x) (hd : x = [] ∨ c.state = .complete) :
    c.WF ∧ (x ≠ [] → c.state = .complete) := by
  rcases hd with rfl | hc
  · refine ⟨?_, fun h => absurd rfl h⟩
    intro hs
    obtain ⟨n, hn, h | ⟨_, _, h⟩⟩ := hl hs
    · exact ⟨n, hn, h⟩
    · cases h
  · exact ⟨fun hs => by simp [hc] at hs, fun _ => hc⟩

theorem parse_wf {c c' : Chunk} {x r : Bytes} (hl : Live c x) (hp : parse c x = .ok (c', r)) :
    c'.WF ∧ (r ≠ [] → c'.state = .complete) := by
  refine parse_induction
    (motive := fun c x => parse c x = .ok (c', r) → c'.WF ∧ (r ≠ [] → c'.state = .complete))
    ?_ ?_ hl hp
  · intro c x hl hd hp
    rw [parse_done hd] at hp; cases hp
    exact live_done hl hd
  · intro c x hl hx hc ih hp
    rw [parse_unfold hl hx hc] at hp
    cases hpr : process c x with
    | error e => rw [hpr] at hp; cases hp
    | ok p => rw [hpr] at hp; exact (ih p.1 p.2 hpr).2 hp

/-- a chunk-size line `sz [ext]` announcing `n` bytes: `sz` is any text `int(·, 16)`
    reads as `n`, the optional extension starts with `;`, no CRLF inside -/
def SizeLine (sz ext : Bytes) (n : Nat) : Prop :=
  pyInt 16 sz = some (Int.ofNat n) ∧ 59 ∉ sz ∧ splitCRLF (sz ++ ext) = none ∧
    (ext = [] ∨ ext.head? = some 59)

/-- chunked bodies without trailers: `(size-line CRLF data CRLF)* last-size-line CRLF CRLF` -/
inductive ChunkedStream
  | last (sz ext : Bytes)
  | chunk (sz ext data : Bytes) (rest : ChunkedStream)

namespace ChunkedStream
def render : ChunkedStream → Bytes
  | .last sz ext => sz ++ ext ++ CRLF ++ CRLF
  | .chunk sz ext data rest => sz ++ ext ++ CRLF ++ (data ++ CRLF ++ rest.render)

def decoded : ChunkedStream → Bytes
  | .last _ _ => []
  | .chunk _ _ data rest => data ++ rest.decoded

def Valid : ChunkedStream → Prop
  | .last sz ext => SizeLine sz ext 0
  | .chunk sz ext data rest => SizeLine sz ext data.length ∧ data ≠ [] ∧ rest.Valid
end ChunkedStream

theorem szText_sizeLine {sz ext : Bytes} {n : Nat} (h : SizeLine sz ext n) : szText (sz ++ ext) = sz := by
  obtain ⟨_, hs, _, he⟩ := h
  unfold szText
  rcases he with rfl | he
  · rw [List.append_nil, splitOnce1_of_not_mem _ _ hs]
  · cases ext with
    | nil => simp at he
    | cons e ext' =>
      simp only [List.head?_cons, Option.some.injEq] at he; subst he
      rw [splitOnce1_render _ _ _ hs]

theorem classify_sizeLine {sz ext : Bytes} {n : Nat} (h : SizeLine sz ext n) :
    classify (sz ++ ext) = .size n := by
  have hnb : ¬ (strip (sz ++ ext)).isEmpty = true := by
    intro hb
    have hw := (strip_isEmpty_iff _).1 hb
    have := pyInt_ws_none 16 sz (fun c hc => hw c (by simp [hc]))
    rw [h.1] at this; cases this
  simp only [classify, hnb, szText_sizeLine h, h.1]
  rfl

theorem crlf_mid_ne_nil (x y : Bytes) : x ++ CRLF ++ y ≠ [] := fun h =>
  List.cons_ne_nil 13 [10] (List.append_eq_nil_iff.1 (List.append_eq_nil_iff.1 h).1).2

theorem render_ne_nil (s : ChunkedStream) : s.render ≠ [] := by
  cases s <;> exact crlf_mid_ne_nil _ _

/-- one chunk of either kind: a data chunk, or the last chunk with `data = []` -/
theorem parse_chunk {sz ext data : Bytes} (hsl : SizeLine sz ext data.length) {c : Chunk}
    (hs : c.state = .waitingForSize) (hk : c.chunk = []) (t : Bytes) :
    parse c (sz ++ ext ++ CRLF ++ (data ++ CRLF ++ t)) =
      parse { state := if data.length == 0 then .complete else .waitingForSize, body := c.body ++ data,
              chunk := [], size := none } t := by
  have hsp : splitCRLF (c.chunk ++ (sz ++ ext ++ CRLF ++ (data ++ CRLF ++ t))) =
      some (sz ++ ext, data ++ CRLF ++ t) := by
    rw [hk]; exact splitCRLF_render hsl.2.2.1 _
  have hh : ¬ (data.length == 0 && partialCRLF (data ++ CRLF ++ t)) = true := by
    have h2 : 2 ≤ (data ++ CRLF ++ t).length := by
      rw [List.length_append, List.length_append]
      exact Nat.le_trans (Nat.le_add_left 2 _) (Nat.le_add_right _ _)
    rw [partialCRLF_of_two_le h2, Bool.and_false]; exact Bool.false_ne_true
  rw [parse_unfold (live_of_ne _ (fun h => nomatch hs.symm.trans h)) (crlf_mid_ne_nil _ _)
      (fun h => nomatch hs.symm.trans h), process_wfs_some hs hsp, classify_sizeLine hsl]
  simp only [if_neg hh]
  rw [parse_unfold (live_data c hh) (crlf_mid_ne_nil _ _) (fun h => nomatch h),
    process_wfd rfl rfl (Nat.zero_le _), if_pos (Nat.le_trans (Nat.sub_le _ _) (by
      rw [List.append_assoc, List.length_append]; exact Nat.le_add_right _ _))]
  simp only [List.length_nil, Nat.sub_zero, List.append_assoc, List.take_left, List.drop_left,
    List.nil_append, dropCRLF_crlf]

theorem parse_stream (s : ChunkedStream) (hv : s.Valid) (c : Chunk) (hs : c.state = .waitingForSize)
    (hk : c.chunk = []) (t : Bytes) :
    parse c (s.render ++ t) =
      .ok ({ state := .complete, body := c.body ++ s.decoded, chunk := [], size := none }, t) := by
  induction s generalizing c with
  | last sz ext =>
    have := parse_chunk (data := []) hv hs hk t
    simp only [List.nil_append, List.append_nil] at this
    simp only [ChunkedStream.render, ChunkedStream.decoded, List.append_assoc, List.append_nil] at this ⊢
    rw [this]; exact parse_done (.inr rfl)
  | chunk sz ext data rest ih =>
    obtain ⟨hsl, hd, hvr⟩ := hv
    have h0 : (data.length == 0) = false := by simpa using hd
    have := parse_chunk hsl hs hk (rest.render ++ t)
    simp only [ChunkedStream.render, ChunkedStream.decoded, List.append_assoc] at this ⊢
    rw [this, h0, ih hvr _ rfl rfl]
    simp only [List.append_assoc]

end Px.Chunk

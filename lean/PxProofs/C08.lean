import PxModel.PluginChain
import PxProofs.ChainLemmas
import PxProofs.Lit
/-!
# C08 — with proxy authentication on, unauthenticated requests reach nothing

The model (`PxModel/Auth.lean`, `PxModel/PluginChain.lean`) is tied to
`proxy/http/proxy/auth.py`, `proxy/common/flag.py`, `proxy/common/plugins.py`,
`proxy/http/proxy/server.py`, `proxy/http/handler.py` and
`proxy/http/exception/*.py` by the correspondence check `harness/c08.py`.

* "Carries exactly the configured credentials" is specified by `credOk`
  (ChainLemmas): split at blanks the header value has exactly two parts, the
  first is `basic` in any letter case, the second equals the configured code
  byte for byte.
* The header is looked up under the lower-cased key of the parser's header map,
  so the header *name* matches in any letter case; a duplicated header line
  keeps the last value (`C08_dup_last_wins`, about the model's `parseHeaders`,
  which mirrors `HttpParser._process_header` / `add_header`).
* "No request-handling hook of a later plugin runs" — the two per-connection
  lifecycle callbacks (`on_access_log`, `on_upstream_connection_close`) of every
  plugin do run at close (C09); `reqHook` names the request-handling hooks.
-/
namespace Px.Chain
open Px

def AuthOn (cfg : Cfg) (c : Bytes) : Prop := cfg.authCode = some c ∧ c ≠ []

example : AuthOn ⟨Auth.authCode (some (b "user:pass")), []⟩ (b "dXNlcjpwYXNz") := by
  rw [b_ofList, b_ofList]; exact ⟨by decide +kernel, by decide +kernel⟩

/-- **C08 reject.**  A first request (any method, CONNECT included) whose
`proxy-authorization` value is absent or not the configured credentials:
`on_request_complete` raises `ProxyAuthenticationFailed`, and the *only* effect is
the auth plugin's own `before_upstream_connection` — whatever user plugins follow
it and whether or not the origin would accept a connection (`ok`). -/
theorem C08_reject (cfg : Cfg) (c : Bytes) (hc : AuthOn cfg c) (users : List Plugin) (ok : Bool) (r : Req)
    (hbad : ¬ CredOk c (hVal? r.headers Auth.PROXY_AUTHORIZATION)) :
    onRequestComplete cfg (authPlugin cfg :: users) ok r =
      ([Eff.call 0 .before (.req r)], ⟨false, .error .authFailed⟩) := by
  have hchk : Auth.check cfg.authCode (hVal? r.headers Auth.PROXY_AUTHORIZATION) = false := by
    rw [hc.1]; exact Bool.eq_false_iff.2 fun h => hbad ((check_iff c hc.2 _).1 h)
  simp only [onRequestComplete]
  simp [chain, authPlugin, hchk]

/-- the 407 is queued by the handler: `C08_response` -/
theorem C08_reject_effects (cfg : Cfg) (c : Bytes) (hc : AuthOn cfg c) (users : List Plugin) (ok : Bool) (r : Req)
    (hbad : ¬ CredOk c (hVal? r.headers Auth.PROXY_AUTHORIZATION)) :
    let l := (onRequestComplete cfg (authPlugin cfg :: users) ok r).1
    connects l = [] ∧ upBytes l = [] ∧ (∀ i h a, Eff.call i h a ∈ l → i = 0) := by
  rw [C08_reject cfg c hc users ok r hbad]
  refine ⟨by simp [connOf], by simp [upOfE], ?_⟩
  intro i h a hm
  simp at hm
  exact hm.1

theorem C08_accept (cfg : Cfg) (c : Bytes) (hc : AuthOn cfg c) (r : Req)
    (hgood : CredOk c (hVal? r.headers Auth.PROXY_AUTHORIZATION)) :
    (authPlugin cfg).before r = .pass r := by
  have : Auth.check cfg.authCode (hVal? r.headers Auth.PROXY_AUTHORIZATION) = true := by
    rw [hc.1]; exact (check_iff c hc.2 _).2 hgood
  simp [authPlugin, this]

theorem C08_auth_off (cfg : Cfg) (h : cfg.authCode = none) (r : Req) : (authPlugin cfg).before r = .pass r := by
  simp [authPlugin, Auth.check, h]

/-- every value `blanks* scheme blanks+ code blanks*`, the scheme in any letter case, is accepted -/
theorem C08_accept_shape (c s w0 w1 w2 : Bytes) (hs : lower s = Auth.BASIC) (hsn : noWs s) (hsne : s ≠ [])
    (hcn : noWs c) (hcne : c ≠ []) (h0 : allWs w0) (h1 : allWs w1) (h1ne : w1 ≠ []) (h2 : allWs w2) :
    credOk c (w0 ++ s ++ w1 ++ c ++ w2) := by
  unfold credOk
  rw [splitWs_two w0 s w1 c w2 h0 hsn hsne h1 h1ne hcn hcne h2]
  simp [hs]

example : credOk (b "dXNlcjpwYXNz") (b "\t bAsIc \x0b  dXNlcjpwYXNz \r") := by
  rw [b_ofList, b_ofList]; decide +kernel
example : ¬ credOk (b "dXNlcjpwYXNz") (b "Basic dXNlcjpwYXNz; realm=x") := by
  rw [b_ofList, b_ofList]; decide +kernel
example : ¬ credOk (b "dXNlcjpwYXNz") (b "Basic dxnlcjpwyxnz") := by
  rw [b_ofList, b_ofList]; decide +kernel
example : ¬ credOk (b "dXNlcjpwYXNz") (b "Bearer dXNlcjpwYXNz") := by
  rw [b_ofList, b_ofList]; decide +kernel
example : ¬ credOk (b "dXNlcjpwYXNz") (b "BasicdXNlcjpwYXNz") := by
  rw [b_ofList, b_ofList]; decide +kernel

/-- **C08 duplicated header.**  The value found under a key is that of the
*last* header line filed under it (names compared after `strip().lower()`). -/
theorem C08_dup_last_wins (pre post : List Bytes) (l : Bytes) (h : ∀ m ∈ post, lineKey m ≠ lineKey l) :
    hVal? (parseHeaders (pre ++ l :: post)) (lineKey l) = some (lineVal l) := by
  unfold parseHeaders
  rw [List.foldl_append, List.foldl_cons, foldl_processHeader_other post _ _ h, processHeader_same]

theorem C08_absent (lines : List Bytes) (k : Bytes) (h : ∀ m ∈ lines, lineKey m ≠ k) :
    hVal? (parseHeaders lines) k = none := by
  unfold parseHeaders
  rw [foldl_processHeader_other lines _ _ h]
  rfl

example : lineKey (b "PROXY-Authorization :  Basic abc ") = Auth.PROXY_AUTHORIZATION := by
  rw [b_ofList]; decide +kernel
example : hVal? (parseHeaders [b "Proxy-Authorization: Basic good", b "proxy-authorization: Basic bad"])
    Auth.PROXY_AUTHORIZATION = some (b "Basic bad") := by
  rw [b_ofList, b_ofList, b_ofList]; decide +kernel

/-- **C08 response.**  Handler level: the first request failing authentication
queues exactly the 407 packet of `proxy/http/responses.py` for the client and puts
the connection into flush-then-close; the plugin object exists (`dispatched`), no
upstream does.  Bytes behind the request in the same read (`rest`, `more`) are not
looked at. -/
theorem C08_response (cfg : Cfg) (c : Bytes) (hc : AuthOn cfg c) (users : List Plugin) (ok : Bool) (r : Req)
    (hbad : ¬ CredOk c (hVal? r.headers Auth.PROXY_AUTHORIZATION)) (rest : Bytes) (more : List (Req × Bytes)) :
    step cfg (authPlugin cfg :: users) {} (.first r ok rest more) =
      ({ dispatched := true, clBuf := [Px.Gen.pkt_PROXY_AUTH_FAILED_RESPONSE_PKT], closing := true },
       [Eff.call 0 .before (.req r), .clQ Px.Gen.pkt_PROXY_AUTH_FAILED_RESPONSE_PKT]) := by
  simp only [step, firstStep, C08_reject cfg c hc users ok r hbad]
  simp [raise, Exc.response, tearReq, clItems]

/-- **C08 whole connection.**  Whatever events follow (`evs`) and however often
`shutdown()` runs (`n`): no connection attempt, no byte for an upstream, only the
407 packet is ever queued for the client, and the only request-handling hook
invoked is the auth plugin's own check. -/
theorem C08_reject_conn (cfg : Cfg) (c : Bytes) (hc : AuthOn cfg c) (users : List Plugin) (ok : Bool) (r : Req)
    (hbad : ¬ CredOk c (hVal? r.headers Auth.PROXY_AUTHORIZATION)) (rest : Bytes) (more : List (Req × Bytes))
    (evs : List Ev) (n : Nat)
    (l : Log) (hl : l = conn cfg (authPlugin cfg :: users) (.first r ok rest more :: evs) n) :
    connects l = [] ∧ upBytes l = [] ∧ clItems l = [Px.Gen.pkt_PROXY_AUTH_FAILED_RESPONSE_PKT] ∧
    (∀ i h a, Eff.call i h a ∈ l → reqHook h = true → (i = 0 ∧ h = .before)) := by
  subst hl
  unfold conn
  simp only [run, C08_response cfg c hc users ok r hbad rest more, List.append_assoc]
  have hq : Quiet { dispatched := true, clBuf := [Px.Gen.pkt_PROXY_AUTH_FAILED_RESPONSE_PKT], closing := true } :=
    ⟨rfl, Or.inl rfl⟩
  obtain ⟨t1, t2, t3, t4⟩ := quiet_conn_tail cfg (authPlugin cfg :: users) _ evs n hq
  refine ⟨by simp [t1, connOf], by simp [t2, upOfE], by simp [t3, clItems], ?_⟩
  intro i h a hm hr
  simp only [List.cons_append, List.nil_append, List.mem_cons] at hm
  rcases hm with hm | hm | hm
  · injection hm with h1 h2 h3; exact ⟨h1, h2⟩
  · cases hm
  · rw [t4 i h a hm] at hr; cases hr

/-- **C08 order (model).**  `Plugins.load` of `defaults ++ [auth] ++ requested`:
the auth plugin lies in a prefix of the loaded list that contains no requested
plugin `q` other than itself, unless `q` is also a default plugin — i.e. the
auth plugin precedes every user plugin. -/
theorem C08_order_model (bk auth q : Bytes) (defaults requested : List (Bytes × Bytes))
    (hq : q ≠ auth) (hqd : q ∉ loadBucket bk defaults []) :
    ∃ pre t, loadBucket bk (defaults ++ (auth, bk) :: requested) [] = pre ++ t ∧ auth ∈ pre ∧ q ∉ pre := by
  obtain ⟨t, ht, _⟩ := loadBucket_ext bk requested (loadBucket bk (defaults ++ [(auth, bk)]) [])
  refine ⟨loadBucket bk (defaults ++ [(auth, bk)]) [], t, ?_, ?_, ?_⟩
  · rw [← ht, ← loadBucket_append, List.append_assoc]; rfl
  · simp [mem_loadBucket]
  · simp only [mem_loadBucket] at hqd ⊢
    simpa [hq] using hqd

/-- one row of the generated table: the model's `loadBucket` reproduces what the
real `Plugins.load` returned, the auth plugin is loaded, and it precedes every
requested plugin -/
def rowOk (row : List (Bytes × Bytes) × Bytes × List Bytes × List Bytes) : Bool :=
  let (arg, auth, req, res) := row
  loadBucket HPB arg [] == res &&
  (auth.isEmpty ||
    (res.contains auth && req.all fun q => q == auth || !res.contains q || res.idxOf auth < res.idxOf q))

/-- **C08 order (code).**  For every flag combination of the generated table
(`harness/gen_constants.py`: with / without basic auth, 0–3 requested plugins in
different orders, duplicates, the auth plugin requested again, other plugin
kinds mixed in): the list the real `FlagParser.initialize` loaded is the one the
model computes, and in it the auth plugin precedes every requested plugin. -/
theorem C08_order : Px.Gen.pluginOrderTable.all rowOk = true := by
  unfold rowOk HPB; rw [b_ofList]; decide +kernel

/-- the table is not trivial: it has rows with authentication and ≥ 2 requested plugins -/
example : (Px.Gen.pluginOrderTable.filter fun row => !row.2.1.isEmpty && row.2.2.1.length ≥ 2).length ≥ 3 := by
  decide +kernel

def Clean (z : Req) : Prop :=
  dHas z.headers Auth.PROXY_AUTHORIZATION = false ∧ dHas z.headers Auth.PROXY_CONNECTION = false

theorem lower_PA : lower Auth.PROXY_AUTHORIZATION = Auth.PROXY_AUTHORIZATION := by decide +kernel
theorem lower_PC : lower Auth.PROXY_CONNECTION = Auth.PROXY_CONNECTION := by decide +kernel
theorem via_ne_PA : lower (b "Via") ≠ Auth.PROXY_AUTHORIZATION := by rw [b_ofList]; decide +kernel
theorem via_ne_PC : lower (b "Via") ≠ Auth.PROXY_CONNECTION := by rw [b_ofList]; decide +kernel

theorem clean_fwdLater (y : Req) : Clean (fwdLater y) := by
  unfold Clean fwdLater Req.delHeaders STRIP
  simp only [List.foldl_cons, List.foldl_nil, Req.delHeader, lower_PA, lower_PC]
  exact ⟨dHas_dDel_of_not _ _ _ (dHas_dDel_same _ _), dHas_dDel_same _ _⟩

theorem clean_fwdFirst (y : Req) : Clean (fwdFirst y) := by
  have h := clean_fwdLater y
  unfold Clean fwdFirst Req.addHeader hAdd at *
  unfold fwdLater at h
  exact ⟨by rw [dHas_dSet_other _ _ _ _ via_ne_PA]; exact h.1, by rw [dHas_dSet_other _ _ _ _ via_ne_PC]; exact h.2⟩

theorem buildHeaders_keys (z : Req) (dis : List Bytes) (kv : Bytes × Bytes) (h : kv ∈ z.buildHeaders dis) :
    ∃ e ∈ z.headers, e.2.1 = kv.1 ∧ dis.contains (lower e.1) = false := by
  refine List.foldlRecOn z.headers _
    (motive := fun acc => ∀ a ∈ acc, ∃ e ∈ z.headers, e.2.1 = a.1 ∧ dis.contains (lower e.1) = false)
    (fun _ h => absurd h List.not_mem_nil) (fun acc ih e he a ha => ?_) kv h
  split at ha
  · exact ih a ha
  · rename_i hdis
    rcases mem_dSet_key _ _ _ _ ha with h1 | ⟨a', ha', h1⟩
    · exact ⟨e, he, h1.symm, by simpa using hdis⟩
    · exact h1 ▸ ih a' ha'

def Stripped (cfg : Cfg) (x : Bytes) : Prop := ∃ z, Clean z ∧ x = z.build cfg.disableHeaders

/-- Everything the log queues for the upstream satisfies `A`.  (Its lemmas let a proof follow the
    shape of the function that made the log.) -/
def UpAll (A : Bytes → Prop) (l : Log) : Prop := ∀ x ∈ upBytes l, A x

section
variable {A B : Bytes → Prop} {l a b : Log}

theorem UpAll.nil (h : upBytes l = []) : UpAll A l :=
  fun x hx => by rw [h] at hx; cases hx

theorem UpAll.chain {α : Type} {h : Hook} {f : Plugin → α → Res α} {w : α → Arg} {i : Nat} {ps : List Plugin} {x : α} :
    UpAll A (chain h f w i ps x).1 :=
  .nil (chain_obs ..).2.1

theorem UpAll.upQ {y : Bytes} (h : A y) : UpAll A [.upQ y] :=
  fun x hx => by cases List.mem_singleton.1 hx; exact h

theorem UpAll.append (ha : UpAll A a) (hb : UpAll A b) : UpAll A (a ++ b) :=
  fun x hx => by rw [upBytes_append] at hx; exact (List.mem_append.1 hx).elim (ha x) (hb x)

theorem UpAll.mono (h : UpAll A l) (hAB : ∀ x, A x → B x) : UpAll B l :=
  fun x hx => hAB x (h x hx)

theorem UpAll.ite {c : Prop} [Decidable c] {r s : St × Log} (hr : c → UpAll A r.2) (hs : ¬ c → UpAll A s.2) :
    UpAll A (if c then r else s).2 := by
  split
  · exact hr ‹_›
  · exact hs ‹_›

/-- every arm of `step` begins with such a test: a connection that is down (or closing) ignores the event -/
theorem UpAll.guard {c : Prop} [Decidable c] {st : St} {s : St × Log} (hs : UpAll A s.2) :
    UpAll A (if c then (st, []) else s).2 :=
  .ite (fun _ => .nil rfl) fun _ => hs

end

/-- **C08 strip, first request.**  Whatever the plugins did to the request:
everything `on_request_complete` queues for the upstream is `build` of a request
whose header map has no `proxy-authorization` (and no `proxy-connection`) key. -/
theorem C08_strip_first (cfg : Cfg) (ps : List Plugin) (ok : Bool) (r : Req) :
    ∀ x ∈ upBytes (onRequestComplete cfg ps ok r).1, ∃ z, Clean z ∧ x = z.build cfg.disableHeaders := by
  have hac : ∀ up y, UpAll (Stripped cfg) (afterConnect cfg ps up y).1 := fun up y =>
    afterConnect_cases cfg ps up y .chain (.append .chain (.nil rfl))
      fun _ => .append .chain (.upQ ⟨_, clean_fwdFirst _, rfl⟩)
  have hab : ∀ dc y, UpAll (Stripped cfg) (afterBefore cfg ps ok dc y).1 := by
    intro dc y
    simp only [afterBefore]
    split
    · split
      · exact .nil (upBytes_connectUpstream ps y ok)
      · exact .append (.nil (upBytes_connectUpstream ps y ok)) (hac _ _)
    · exact hac _ _
  simp only [onRequestComplete]
  split
  · exact UpAll.chain
  · exact UpAll.append .chain (hab _ _)
  · exact UpAll.append .chain (hab _ _)

/-- an upgrade request was forwarded on this connection before or within this read
    (the only situation, besides a CONNECT tunnel, in which client bytes are passed on raw) -/
def UpgradeIn (ps : List Plugin) (st : St) (more : List (Req × Bytes)) : Prop :=
  st.upgraded = true ∨ ∃ q ∈ more, ∃ y, (creqChain ps q.1).2 = .done y ∧ (fwdLater y).isUpgrade = true

theorem follow_spec (cfg : Cfg) (ps : List Plugin) (st : St) (r : Req) :
    UpAll (Stripped cfg) (follow cfg ps st r).2 ∧
    ((follow cfg ps st r).1.upgraded = true →
      st.upgraded = true ∨ ∃ y, (creqChain ps r).2 = .done y ∧ (fwdLater y).isUpgrade = true) := by
  simp only [follow]
  split
  · exact ⟨.nil (by simp), fun h => Or.inl (by simpa using h)⟩
  · exact ⟨.chain, Or.inl⟩
  · rename_i y hy
    exact ⟨.append .chain (.upQ ⟨_, clean_fwdLater _, rfl⟩), fun h => Or.inr ⟨y, hy, h⟩⟩

/-- **C08 strip, every request of a read.**  However many complete requests are
packed into one read: everything the follow-up loop queues for the upstream is
`build` of a `Clean` request — except raw bytes passed on after an upgrade request
was forwarded. -/
theorem C08_strip_pipeline (cfg : Cfg) (ps : List Plugin) (st : St) (raw : Bytes) (more : List (Req × Bytes)) :
    ∀ x ∈ upBytes (pipeline cfg ps st raw more).2,
      (∃ z, Clean z ∧ x = z.build cfg.disableHeaders) ∨
      (UpgradeIn ps st more ∧ (x = raw ∨ ∃ q ∈ more, x = q.2)) := by
  induction more generalizing st raw with
  | nil =>
    simp only [pipeline]
    exact UpAll.ite (fun hu => .upQ (Or.inr ⟨Or.inl hu, Or.inl rfl⟩)) (fun _ => .nil rfl)
  | cons q more ih =>
    obtain ⟨r, rest⟩ := q
    obtain ⟨hf, hfu⟩ := follow_spec cfg ps st r
    simp only [pipeline]
    refine UpAll.ite (fun hu => .upQ (Or.inr ⟨Or.inl hu, Or.inl rfl⟩)) fun _ =>
      UpAll.ite (fun _ => UpAll.mono hf fun x => Or.inl) fun _ => (UpAll.mono hf fun x => Or.inl).append ?_
    -- what the rest of the read passes on raw: an upgrade in the tail is an upgrade in the whole read
    refine UpAll.mono (ih _ _) fun x h => h.imp_right fun ⟨hup, hraw⟩ => ⟨?_, ?_⟩
    · rcases hup with hup | ⟨q, hq, y, hy, hu⟩
      · exact (hfu hup).imp_right fun ⟨y, hy, hu⟩ => ⟨(r, rest), List.mem_cons_self, y, hy, hu⟩
      · exact Or.inr ⟨q, List.mem_cons_of_mem _ hq, y, hy, hu⟩
    · rcases hraw with rfl | ⟨q, hq, rfl⟩
      · exact Or.inr ⟨(r, x), List.mem_cons_self, rfl⟩
      · exact Or.inr ⟨q, List.mem_cons_of_mem _ hq, rfl⟩

theorem clientData_up (cfg : Cfg) (ps : List Plugin) (st : St) (raw : Bytes) (more : List (Req × Bytes)) :
    UpAll (fun x => Stripped cfg x ∨ (st.tunnel = true ∧ x = raw) ∨
      (UpgradeIn ps st more ∧ (x = raw ∨ ∃ q ∈ more, x = q.2))) (clientData cfg ps st raw more).2 := by
  refine UpAll.ite (fun _ => .nil ?_) fun _ => UpAll.ite (fun ht => .upQ (Or.inr (Or.inl ⟨ht, rfl⟩))) fun _ =>
    UpAll.mono (C08_strip_pipeline cfg ps st raw more) fun x h => h.imp_right Or.inr
  simp only [noUpstreamData]; split <;> simp

/-- **C08 strip, later requests.**  Every item an event queues for the upstream is
`build` of a `Clean` request — the first request and every later one, however the
requests are packed into reads — or raw client data passed through a CONNECT
tunnel or after a forwarded upgrade request.  `st'` is the state in which the
client bytes are handled: the state before a `cdata` event, the state after
`on_request_complete` for bytes packed behind the first request. -/
theorem C08_strip_later (cfg : Cfg) (ps : List Plugin) (st : St) (ev : Ev) :
    ∀ x ∈ upBytes (step cfg ps st ev).2,
      (∃ z, Clean z ∧ x = z.build cfg.disableHeaders) ∨
      (∃ st' raw more, (ev = .cdata raw more ∧ st' = st ∨
                        ∃ r ok, ev = .first r ok raw more ∧ st' = (firstStep cfg ps st r ok).1) ∧
        ((st'.tunnel = true ∧ x = raw) ∨ (UpgradeIn ps st' more ∧ (x = raw ∨ ∃ q ∈ more, x = q.2)))) := by
  have hfirst : ∀ r ok, UpAll (Stripped cfg) (firstStep cfg ps st r ok).2 := by
    intro r ok
    simp only [firstStep]
    split
    · exact fun x hx => C08_strip_first cfg ps ok r x (by simpa using hx)
    · exact C08_strip_first cfg ps ok r
  cases ev with
  | first r ok rest more =>
    refine UpAll.guard <| UpAll.ite (fun _ => (hfirst r ok).mono fun x => Or.inl) fun _ =>
      ((hfirst r ok).mono fun x => Or.inl).append ?_
    exact UpAll.mono (clientData_up cfg ps _ rest more) fun x h =>
      h.imp_right fun h => ⟨_, rest, more, Or.inr ⟨r, ok, rfl, rfl⟩, h⟩
  | cdata raw more =>
    exact UpAll.guard <| UpAll.mono (clientData_up cfg ps st raw more) fun x h =>
      h.imp_right fun h => ⟨st, raw, more, Or.inl ⟨rfl, rfl⟩, h⟩
  | first400 => exact UpAll.guard (.nil (by simp [upOfE]))
  | udata raw => exact UpAll.guard (.nil (upBytes_upstreamData ps st raw))
  | ueof => exact UpAll.guard (.nil (upBytes_drain st))
  | ceof => exact UpAll.guard (.nil (upBytes_drain st))
  | cabort => exact UpAll.guard (.nil rfl)
  | flush =>
    refine UpAll.guard ?_
    split
    · exact .nil rfl
    · exact UpAll.ite (fun _ => .nil rfl) fun _ => .nil rfl

/-- **C08 no smuggling.**  On a connection that is no tunnel and on which no
upgrade request is forwarded, no packing of requests into a read makes anything
reach the upstream but `build` of `Clean` requests. -/
theorem C08_no_smuggling (cfg : Cfg) (ps : List Plugin) (st : St) (raw : Bytes) (more : List (Req × Bytes))
    (ht : st.tunnel = false) (hu : ¬ UpgradeIn ps st more) :
    ∀ x ∈ upBytes (step cfg ps st (.cdata raw more)).2, ∃ z, Clean z ∧ x = z.build cfg.disableHeaders := by
  refine UpAll.guard <| UpAll.mono (clientData_up cfg ps st raw more) fun x h => ?_
  rcases h with h | ⟨h, _⟩ | ⟨h, _⟩
  · exact h
  · rw [ht] at h; cases h
  · exact absurd h hu

/-- **C08 an upgrade offer in the first request changes nothing.**  Whatever the
first request carries — in particular `Connection: Upgrade` / `Upgrade: …`
(websocket or h2c offers) — it never switches the connection to raw relay; only
a *forwarded follow-up* upgrade request does, so with none in the read (`hu`)
`C08_no_smuggling` applies. -/
theorem C08_first_request_upgrade_still_stripped (cfg : Cfg) (ps : List Plugin) (r : Req) (ok : Bool)
    (raw : Bytes) (more : List (Req × Bytes))
    (ht : (firstStep cfg ps {} r ok).1.tunnel = false)
    (hu : ∀ q ∈ more, ∀ y, (creqChain ps q.1).2 = .done y → (fwdLater y).isUpgrade = false) :
    (firstStep cfg ps {} r ok).1.upgraded = false ∧
    ∀ x ∈ upBytes (step cfg ps (firstStep cfg ps {} r ok).1 (.cdata raw more)).2,
      ∃ z, Clean z ∧ x = z.build cfg.disableHeaders := by
  have hup : (firstStep cfg ps {} r ok).1.upgraded = false := by rw [firstStep_upgraded]
  refine ⟨hup, C08_no_smuggling cfg ps _ raw more ht ?_⟩
  rintro (h | ⟨q, hq, y, hy, hiu⟩)
  · rw [hup] at h; cases h
  · rw [hu q hq y hy] at hiu; cases hiu

/-- the statement is about requests that *are* upgrade offers too -/
example : ({ method := b "GET", path := b "/", version := Px.Gen.http11, host := b "h", port := 80, tunnel := false,
             headers := parseHeaders [b "Connection: keep-alive, Upgrade", b "Upgrade: h2c"], body := [] } : Req).isUpgrade
    = true := by
  simp only [Req.isUpgrade, Req.hasHeader]
  rw [b_ofList, b_ofList, b_ofList, b_ofList]; decide +kernel

/-- a `Clean` request really loses the credentials on the wire: no header line
built from it was filed under `proxy-authorization` -/
theorem C08_clean_build (z : Req) (hz : Clean z) (dis : List Bytes) (kv : Bytes × Bytes)
    (h : kv ∈ z.buildHeaders dis) : ∃ e ∈ z.headers, e.2.1 = kv.1 ∧ e.1 ≠ Auth.PROXY_AUTHORIZATION := by
  obtain ⟨e, he, hk, _⟩ := buildHeaders_keys z dis kv h
  refine ⟨e, he, hk, ?_⟩
  intro heq
  have := hz.1
  simp only [dHas, List.any_eq_false] at this
  exact this e he (by simp [heq])

end Px.Chain

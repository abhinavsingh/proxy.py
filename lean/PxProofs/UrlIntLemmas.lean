import PxModel.Connect
import PxProofs.UrlLemmas
import PxProofs.HexLemmas
/-!
# `int()` on port text, UTF-8 validity of ASCII, the specification's decimal renderer
-/
namespace Px.UrlL
open Px Px.Url
open Px.Connect (isDig decRender decDigitsAux)

def decVal (x : Bytes) : Nat := x.foldl (fun a c => a * 10 + (c.toNat - 48)) 0

theorem isDig_toNat {c : UInt8} (h : isDig c = true) : 48 ≤ c.toNat ∧ c.toNat ≤ 57 := by
  simp only [isDig, Bool.and_eq_true, decide_eq_true_eq, UInt8.le_iff_toNat_le] at h
  simp at h
  exact h

theorem isDigitIn10_eq (c : UInt8) : isDigitIn 10 c = isDig c := by
  unfold isDigitIn digitVal
  cases h : isDig c
  · -- a letter has a value of at least 10
    have h' : (48 ≤ c && c ≤ 57) = false := h
    rw [h']
    simp only [Bool.false_eq_true, if_false]
    by_cases h2 : (97 ≤ c && c ≤ 122) = true
    · rw [if_pos h2]
      simp only [Bool.and_eq_true, decide_eq_true_eq, UInt8.le_iff_toNat_le] at h2
      exact decide_eq_false (by have := h2.1; simp at this; omega)
    · rw [if_neg h2]
      by_cases h3 : (65 ≤ c && c ≤ 90) = true
      · rw [if_pos h3]
        simp only [Bool.and_eq_true, decide_eq_true_eq, UInt8.le_iff_toNat_le] at h3
        exact decide_eq_false (by have := h3.1; simp at this; omega)
      · rw [if_neg h3]
  · have h' : (48 ≤ c && c ≤ 57) = true := h
    have := isDig_toNat h
    rw [h']
    exact decide_eq_true (by omega)

theorem decVal_eq_digitsVal (ds : Bytes) (hd : ∀ c ∈ ds, isDig c = true) : decVal ds = digitsVal 10 0 ds := by
  suffices ∀ acc, ds.foldl (fun a c => a * 10 + (c.toNat - 48)) acc = digitsVal 10 acc ds from this 0
  induction ds with
  | nil => intro acc; rfl
  | cons c cs ih =>
    intro acc
    have hc : (48 ≤ c && c ≤ 57) = true := hd c (by simp)
    rw [digitsVal_cons, List.foldl_cons, ih (fun d h => hd d (by simp [h]))]
    simp only [digitVal, hc, if_true, Option.getD_some]

def signSplit (s : Bytes) : Bool × Bytes :=
  match s with
  | 43 :: r => (false, r)
  | 45 :: r => (true, r)
  | _ => (false, s)

/-- `pyInt` for base 10 with the prefix handling of base 16 removed -/
theorem pyInt10_eq (s : Bytes) : pyInt 10 s =
    (match scanDigits 10 (signSplit (lstrip s)).2 0 0 0 with
     | none => none
     | some (v, n, rest) =>
       if n > intMaxStrDigits then none
       else if (lstrip rest).isEmpty then
         some (if (signSplit (lstrip s)).1 then -(Int.ofNat v) else Int.ofNat v)
       else none) := by
  unfold pyInt signSplit
  simp only [show ((10 : Nat) == 16) = false from rfl, show ((10 : Nat) == 10) = true from rfl,
    Bool.false_eq_true, if_false, Bool.true_and, decide_eq_true_eq]
  rfl

theorem pyInt_of_isDig (ds : Bytes) (hne : ds ≠ []) (hd : ∀ c ∈ ds, isDig c = true)
    (hl : ds.length ≤ intMaxStrDigits) : pyInt 10 ds = some (Int.ofNat (decVal ds)) := by
  rw [Px.pyInt_digits 10 ds hne (fun c hc => by rw [isDigitIn10_eq]; exact hd c hc) (fun _ => hl),
    decVal_eq_digitsVal ds hd]

theorem scanDigits_rest {base : Nat} {x : Bytes} {acc n prev v m : Nat} {rest : Bytes}
    (h : scanDigits base x acc n prev = some (v, m, rest)) {d : UInt8} (hd : d ∈ x) (h95 : d ≠ 95)
    (hdg : isDigitIn base d = false) : d ∈ rest := by
  fun_induction scanDigits base x acc n prev generalizing v m rest with
  | case1 => cases hd
  | case2 => cases hd
  | case3 c cs acc n prev hc hp ih =>
    exact ih h ((List.mem_cons.1 hd).resolve_left fun e => h95 (e ▸ byte_beq.1 hc))
  | case4 => cases h
  | case5 c cs acc n prev hc hc' ih =>
    exact ih h ((List.mem_cons.1 hd).resolve_left fun e => by rw [e, hc'] at hdg; cases hdg)
  | case6 =>
    simp only [Option.some.injEq, Prod.mk.injEq] at h
    rw [← h.2.2]; exact hd
  | case7 => cases h

theorem mem_lstrip {c : UInt8} {x : Bytes} (hc : c ∈ x) (hws : isWs c = false) : c ∈ lstrip x := by
  obtain ⟨p, hp, hpw⟩ := lstrip_suffix x
  rw [hp] at hc
  refine (List.mem_append.1 hc).resolve_left (fun h => ?_)
  rw [hpw c h] at hws; cases hws

/-- the byte survives the stripping and the sign, stops the digit scan, and is left over after it -/
theorem pyInt_none_of_foreign (s : Bytes) (c : UInt8) (hc : c ∈ s) (hws : isWs c = false)
    (h95 : c ≠ 95) (h43 : c ≠ 43) (h45 : c ≠ 45) (hdg : isDigitIn 10 c = false) :
    pyInt 10 s = none := by
  have hc1 := mem_lstrip hc hws
  have hc2 : c ∈ (signSplit (lstrip s)).2 := by
    generalize lstrip s = s1 at hc1
    unfold signSplit
    split
    · exact (List.mem_cons.1 hc1).resolve_left h43
    · exact (List.mem_cons.1 hc1).resolve_left h45
    · exact hc1
  rw [pyInt10_eq]
  cases hsd : scanDigits 10 (signSplit (lstrip s)).2 0 0 0 with
  | none => rfl
  | some r =>
    obtain ⟨v, n, rest⟩ := r
    have hne : (lstrip rest).isEmpty = false :=
      List.isEmpty_eq_false_iff.2 (List.ne_nil_of_mem (mem_lstrip (scanDigits_rest hsd hc2 h95 hdg) hws))
    simp only [hne]
    split <;> simp

theorem utf8Valid_ascii (x : Bytes) (h : ∀ c ∈ x, c.toNat < 128) : utf8Valid x = true := by
  induction x with
  | nil => rfl
  | cons c cs ih =>
    have hc : c < 0x80 := by
      rw [UInt8.lt_iff_toNat_lt]; exact h c (by simp)
    unfold utf8Valid
    rw [if_pos hc]
    exact ih (fun d hd => h d (by simp [hd]))

theorem decDigitsAux_eq (fuel n : Nat) (acc : Bytes) (h : n < fuel) :
    decDigitsAux fuel n acc = decDigits n ++ acc := by
  induction fuel generalizing n acc with
  | zero => omega
  | succ fuel ih =>
    rw [decDigitsAux, decDigits]
    by_cases hn : n < 10
    · simp only [hn, if_true, Nat.mod_eq_of_lt hn]; rfl
    · have hlt := Nat.lt_of_lt_of_le (div_lt_of_not_lt (by decide) hn) (Nat.le_of_lt_succ h)
      simp only [hn, if_false]
      rw [ih _ _ hlt, List.append_assoc]; rfl

theorem decRender_eq (n : Nat) : decRender n = decDigits n := by
  rw [decRender, decDigitsAux_eq _ _ _ (Nat.lt_succ_self n), List.append_nil]

theorem decRender_spec (n : Nat) :
    decRender n ≠ [] ∧ (∀ c ∈ decRender n, isDig c = true) ∧ decVal (decRender n) = n ∧
      (∀ k, 0 < k → n < 10 ^ k → (decRender n).length ≤ k) := by
  obtain ⟨h1, h2, h3⟩ := decDigits_spec n
  have hd : ∀ c ∈ decDigits n, isDig c = true := fun c hc => by rw [← isDigitIn10_eq]; exact h2 c hc
  rw [decRender_eq]
  exact ⟨h1, hd, by rw [decVal_eq_digitsVal _ hd, h3],
    fun k hk h => digits_length_le (by decide) (fun n => by rw [decDigits]) n k hk h⟩

theorem pyInt_decRender (n : Nat) (h : n < 10 ^ intMaxStrDigits) :
    pyInt 10 (decRender n) = some (Int.ofNat n) := by
  obtain ⟨h1, h2, h3, h4⟩ := decRender_spec n
  rw [pyInt_of_isDig _ h1 h2 (h4 _ (by decide) h), h3]

end Px.UrlL

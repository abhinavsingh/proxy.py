import PxModel.Reverse
/-! C12: the routes loop of `ReverseProxy.handle_request` computes its specification (`hits`, `afterRoutes`);
    what the `if needs_upstream:` block connects to and what `request.build` is handed; relaying. -/
namespace Px.Reverse

open Px.Parser (Parser Headers)
open Px.Url (Url utf8Valid)
open Px.Build (dSet rebuildHeaders buildRequest bodyOrChunks)

/-! `hits` lists, in plugin order, the position of every plugin that has a
matching route together with the *first* matching route of that plugin. -/

def hits (m : Nat → Bool) : Nat → Table → List (Nat × Route)
  | _, [] => []
  | i, p :: ps =>
    match firstMatch m p with
    | none => hits m (i + 1) ps
    | some r => (i, r) :: hits m (i + 1) ps

def urlOf (cfg : Cfg) (pick : Nat → Nat) (ir : Nat × Route) : Option Url :=
  match routeAct cfg (pick ir.1) ir.2 with
  | .url u => some u
  | _ => none

def litOf (cfg : Cfg) (pick : Nat → Nat) (ir : Nat × Route) : Option Bytes :=
  match routeAct cfg (pick ir.1) ir.2 with
  | .lit r => some r
  | _ => none

theorem urlOf_eq_some {cfg : Cfg} {pick : Nat → Nat} {ir : Nat × Route} {u : Url} :
    urlOf cfg pick ir = some u ↔ routeAct cfg (pick ir.1) ir.2 = .url u := by
  unfold urlOf; cases routeAct cfg (pick ir.1) ir.2 <;> simp

theorem routeAct_static_url {cfg : Cfg} {k pat : Nat} {urls : List Bytes} {u : Url} :
    routeAct cfg k (.static pat urls) = .url u ↔
      ∃ raw, urls[k]? = some raw ∧ Px.Url.fromBytes cfg.allowedSchemes raw = .ok u := by
  rw [routeAct]
  cases urls[k]? with
  | none => simp
  | some raw => cases hf : Px.Url.fromBytes cfg.allowedSchemes raw <;> simp [hf]

/-- no matching branch raises: `random.choice` is in range, the chosen URL is
    accepted by `Url.from_bytes`, `handle_route` returns normally. -/
def Clean (cfg : Cfg) (pick : Nat → Nat) (hs : List (Nat × Route)) : Prop :=
  ∀ ir ∈ hs, ∀ e c, routeAct cfg (pick ir.1) ir.2 ≠ .fail e c

theorem firstMatch_eq_none {m : Nat → Bool} {p : Plugin} :
    firstMatch m p = none ↔ p.any (fun r => m r.pat) = false := by
  simp [firstMatch]

theorem hits_eq (m : Nat → Bool) (i : Nat) (t : Table) :
    hits m i t = (t.zipIdx i).filterMap (fun pj => (firstMatch m pj.1).map (pj.2, ·)) := by
  induction t generalizing i with
  | nil => rfl
  | cons p ps ih => rw [hits, List.zipIdx_cons, List.filterMap_cons, ← ih]; cases firstMatch m p <;> rfl

theorem hits_eq_nil_iff (m : Nat → Bool) (i : Nat) (t : Table) : hits m i t = [] ↔ anyMatch m t = false := by
  induction t generalizing i with
  | nil => simp [hits, anyMatch]
  | cons p ps ih =>
    rw [hits, anyMatch, List.any_cons, Bool.or_eq_false_iff, ← anyMatch, ← ih (i + 1), ← firstMatch_eq_none]
    cases firstMatch m p <;> simp

def afterRoutes (cfg : Cfg) (pick : Nat → Nat) (hs : List (Nat × Route)) (s : St) : St :=
  { s with choice := ((hs.filterMap (urlOf cfg pick)).getLast?).or s.choice,
           client := { s.client with buffer := s.client.buffer ++ hs.filterMap (litOf cfg pick) } }

theorem routeLoop_clean (cfg : Cfg) (m : Nat → Bool) (pick : Nat → Nat) (t : Table) (i : Nat) (s : St)
    (needs : Bool) (hc : Clean cfg pick (hits m i t)) :
    routeLoop cfg m pick i t s needs =
      (afterRoutes cfg pick (hits m i t) s,
       needs || !((hits m i t).filterMap (urlOf cfg pick)).isEmpty, none) := by
  induction t generalizing i s needs with
  | nil => simp [routeLoop, hits, afterRoutes]
  | cons p ps ih =>
    rw [routeLoop, hits] at *
    cases hf : firstMatch m p with
    | none => rw [hf] at hc; exact ih _ _ _ hc
    | some r =>
      rw [hf] at hc
      obtain ⟨hhead, hc'⟩ := List.forall_mem_cons.1 hc
      dsimp only
      cases ha : routeAct cfg (pick i) r with
      | fail e c => exact absurd ha (hhead e c)
      | url u =>
        have hu : urlOf cfg pick (i, r) = some u := by rw [urlOf, ha]
        have hl : litOf cfg pick (i, r) = none := by rw [litOf, ha]
        dsimp only
        rw [ih _ _ _ hc', afterRoutes, afterRoutes, List.filterMap_cons_some hu, List.filterMap_cons_none hl,
          List.getLast?_cons, List.isEmpty_cons, Bool.true_or, Bool.not_false, Bool.or_true]
        cases (List.filterMap (urlOf cfg pick) (hits m (i + 1) ps)).getLast? <;> rfl
      | lit resp =>
        have hu : urlOf cfg pick (i, r) = none := by rw [urlOf, ha]
        have hl : litOf cfg pick (i, r) = some resp := by rw [litOf, ha]
        dsimp only
        rw [ih _ _ _ hc', afterRoutes, afterRoutes, List.filterMap_cons_none hu, List.filterMap_cons_some hl]
        simp only [Conn.queue, List.append_assoc, List.singleton_append]

theorem routeLoop_fail_head (cfg : Cfg) (m : Nat → Bool) (pick : Nat → Nat) (p : Plugin) (ps : Table) (i : Nat)
    (s : St) (needs : Bool) (r : Route) (e : Err) (hf : firstMatch m p = some r)
    (ha : routeAct cfg (pick i) r = .fail e none) :
    routeLoop cfg m pick i (p :: ps) s needs = (s, needs, some e) := by
  unfold routeLoop; rw [hf]; simp only []; rw [ha]

theorem forward_ok (cfg : Cfg) (req : Parser) (s : St) (u : Url) (h pkt : Bytes)
    (hc : s.choice = some u) (hh : u.hostname = some h) (hne : h ≠ []) (hu : utf8Valid h = true)
    (hb : Px.Build.build cfg.bufSize cfg.disableHeaders (retarget req u) none (hostArg cfg u h) = .ok pkt) :
    forward cfg true req s =
      ⟨{ s with upstream := some ⟨[pkt], false⟩,
                connects := s.connects ++ [(connectHost h, portOf cfg u)],
                wraps := if u.scheme == some cfg.httpsProto then s.wraps ++ [h] else s.wraps },
       false, none⟩ := by
  have hne' : h.isEmpty = false := List.isEmpty_eq_false_iff.2 hne
  unfold forward
  simp only [hc, hh, hne', hu, Bool.not_true, Bool.false_eq_true, if_false, hb]
  split <;> rfl

theorem forward_refused (cfg : Cfg) (req : Parser) (s : St) (u : Url) (h : Bytes)
    (hc : s.choice = some u) (hh : u.hostname = some h) (hne : h ≠ []) (hu : utf8Valid h = true) :
    forward cfg false req s =
      ⟨{ s with upstream := some ⟨[], true⟩, connects := s.connects ++ [(connectHost h, portOf cfg u)] },
       true, some .httpProtocol⟩ := by
  have hne' : h.isEmpty = false := List.isEmpty_eq_false_iff.2 hne
  unfold forward
  simp [hc, hh, hne', hu]

theorem handleRequest_clean (cfg : Cfg) (m : Nat → Bool) (pick : Nat → Nat) (connectOk : Bool) (t : Table)
    (req : Parser) (s : St) (hp : req.path.isSome = true) (hc : Clean cfg pick (hits m 0 t)) :
    handleRequest cfg m pick connectOk t req s =
      match ((hits m 0 t).filterMap (urlOf cfg pick)).getLast? with
      | none => ⟨afterRoutes cfg pick (hits m 0 t) s, false, none⟩
      | some _ => forward cfg connectOk req (afterRoutes cfg pick (hits m 0 t) s) := by
  have hpath : req.path.isNone = false := by rw [← Option.not_isSome, hp]; rfl
  rw [handleRequest, hpath, routeLoop_clean cfg m pick t 0 s false hc]
  cases (hits m 0 t).filterMap (urlOf cfg pick) <;> rfl

/-- the request path written to the upstream: `self.path or b'/'` after `request.path = remainder` -/
def fwdPath (u : Url) : Bytes :=
  match u.remainder with
  | some x => if x.isEmpty then [SLASH] else x
  | none => [SLASH]

/-- the header dict handed to `build_http_request` -/
def fwdHeaders (cfg : Cfg) (req : Parser) (host : Option Bytes) : Px.Build.HDict :=
  match req.headers with
  | some h => if h.isEmpty then [] else rebuildHeaders h cfg.disableHeaders host
  | none => []

theorem fwdHeaders_some {cfg : Cfg} {req : Parser} {hs : Headers} (hh : req.headers = some hs)
    (host : Option Bytes) : fwdHeaders cfg req host = rebuildHeaders hs cfg.disableHeaders host := by
  rw [fwdHeaders, hh]; cases hs <;> rfl

theorem bodyOrChunks_retarget (n : Nat) (req : Parser) (u : Url) :
    bodyOrChunks n (retarget req u) = bodyOrChunks n req := rfl

theorem bodyOrChunks_ok (n : Nat) (hn : n ≠ 0) (req : Parser) :
    ∃ body, bodyOrChunks n req = .ok body ∧ (req.isChunked = false → body = req.body) := by
  unfold bodyOrChunks
  cases req.body with
  | none => exact ⟨none, rfl, fun _ => rfl⟩
  | some bd =>
    cases req.isChunked with
    | false => exact ⟨_, rfl, fun _ => rfl⟩
    | true =>
      -- `to_chunks` only fails for chunk size 0
      have hx : Px.Chunk.toChunks bd n = .ok _ := if_neg (by simpa using hn)
      dsimp only; rw [hx]; exact ⟨_, rfl, nofun⟩

theorem build_shape (cfg : Cfg) (req : Parser) (u : Url) (host : Option Bytes) (mth ver : Bytes)
    (body : Option Bytes)
    (hm : req.method = some mth) (hmne : mth ≠ []) (hv : req.version = some ver) (hvne : ver ≠ [])
    (hty : req.ty = .request) (hbody : bodyOrChunks cfg.bufSize req = .ok body) :
    Px.Build.build cfg.bufSize cfg.disableHeaders (retarget req u) none host =
      .ok (buildRequest [] mth (fwdPath u) ver none (fwdHeaders cfg req host) body false true) := by
  have h1 : mth.isEmpty = false := List.isEmpty_eq_false_iff.2 hmne
  have h2 : ver.isEmpty = false := List.isEmpty_eq_false_iff.2 hvne
  unfold Px.Build.build
  rw [bodyOrChunks_retarget, hbody]
  simp only [retarget, hm, hv, hty, h1, h2]
  rfl

def setHost (hv : Bytes) (kv : Bytes × Bytes) : Bytes × Bytes :=
  if lower kv.1 == b "host" then (kv.1, hv) else kv

theorem setHost_fst (hv : Bytes) (kv : Bytes × Bytes) : (setHost hv kv).1 = kv.1 := by
  unfold setHost; split <;> rfl

theorem setHost_mk (hv name value : Bytes) :
    setHost hv (name, value) = (name, if lower name == b "host" then hv else value) := by
  unfold setHost; split <;> rfl

theorem dSet_map_setHost (hv : Bytes) (acc : Px.Build.HDict) (name value : Bytes) :
    dSet (acc.map (setHost hv)) name (if lower name == b "host" then hv else value) =
      (dSet acc name value).map (setHost hv) := by
  -- `setHost` keeps keys, so both sides take the same branch of `dSet`
  have hkey : ((fun e : Bytes × Bytes => e.1 == name) ∘ setHost hv) = fun e => e.1 == name :=
    funext fun e => by rw [Function.comp, setHost_fst]
  rw [dSet, dSet, List.any_map, hkey, ← setHost_mk]
  by_cases h : (acc.any fun e => e.1 == name) = true
  · rw [if_pos h, if_pos h, List.map_map, List.map_map]
    refine List.map_congr_left fun e _ => ?_
    rw [Function.comp, Function.comp, setHost_fst]
    cases e.1 == name <;> rfl
  · rw [if_neg h, if_neg h, List.map_append]; rfl

theorem rebuildHeaders_host (h : Headers) (dis : List Bytes) (hv : Bytes) :
    rebuildHeaders h dis (some hv) = (rebuildHeaders h dis none).map (setHost hv) := by
  unfold rebuildHeaders
  -- `map (setHost hv)` commutes with every step of the fold
  refine List.foldl_hom (List.map (setHost hv)) (init := []) fun acc e => ?_
  dsimp only
  split
  · rfl
  · exact dSet_map_setHost hv acc e.2.1 e.2.2

/-- an event after which `read_from_descriptors` asks for teardown -/
def UpEv.terminal : UpEv → Bool
  | .seg raw => raw.isEmpty
  | .eof => true | .reset => true | .timedOut => true
  | .wantRead => false

def delivered : List UpEv → List Bytes
  | [] => []
  | e :: es =>
    if e.terminal then []
    else match e with
      | .seg raw => raw :: delivered es
      | _ => delivered es

theorem delivered_segs (segs : List Bytes) (hne : ∀ x ∈ segs, x ≠ []) :
    delivered (segs.map .seg) = segs ∧ (segs.map UpEv.seg).any UpEv.terminal = false := by
  induction segs with
  | nil => exact ⟨rfl, rfl⟩
  | cons x xs ih =>
    obtain ⟨hx, hxs⟩ := List.forall_mem_cons.1 hne
    have ht : (UpEv.seg x).terminal = false := by
      cases x with
      | nil => exact absurd rfl hx
      | cons _ _ => rfl
    rw [List.map_cons, delivered, List.any_cons, ht, (ih hxs).1, (ih hxs).2]; exact ⟨rfl, rfl⟩

end Px.Reverse

import PxModel.Bytes
/-!
# What the Python-`bytes` helpers of `PxModel/Bytes.lean` do on arbitrary byte strings
-/
namespace Px

/-- Instance search reaches `instLawfulBEq` for bytes only after several costly dead ends, in every declaration
that turns a byte `==` into `=`; named here, it is found at once. -/
instance : LawfulBEq UInt8 := instLawfulBEq
instance : LawfulBEq Bytes := List.instLawfulBEq

/-! The `BEq` instance of `UInt8` is `decide (a = b)`, which `byte_beq` and its companions read off directly;
`bytes_beq_self` stands for `beq_self_eq_true`, which searches for `ReflBEq` as well. -/

theorem byte_beq {a b : UInt8} : (a == b) = true ↔ a = b := ⟨of_decide_eq_true, decide_eq_true⟩

theorem byte_beq_false {a b : UInt8} (h : a ≠ b) : (a == b) = false := decide_eq_false h

theorem byte_bne {a c : UInt8} : (a != c) = true ↔ a ≠ c := by
  show (!(a == c)) = true ↔ _
  rw [Bool.not_eq_true']
  exact ⟨fun h e => Bool.false_ne_true (h.symm.trans (byte_beq.2 e)), byte_beq_false⟩

theorem bytes_beq {x y : Bytes} : (x == y) = true ↔ x = y := beq_iff_eq

theorem bytes_beq_self (a : Bytes) : (a == a) = true := bytes_beq.2 rfl

theorem bytes_beq_false {x y : Bytes} : (x == y) = false ↔ x ≠ y :=
  ⟨fun h e => Bool.false_ne_true (h.symm.trans (bytes_beq.2 e)), fun h => Bool.eq_false_iff.2 fun e => h (bytes_beq.1 e)⟩

theorem bytes_bne {x y : Bytes} : (x != y) = true ↔ x ≠ y := by
  show (!(x == y)) = true ↔ _
  rw [Bool.not_eq_true']; exact bytes_beq_false

/-- a byte in a class differs from any byte outside it; for a literal `d` the second premise is an evaluation -/
theorem ne_of_class {p : UInt8 → Bool} {c d : UInt8} (hc : p c = true) (hd : p d = false := by decide +kernel) :
    c ≠ d := by
  rintro rfl; rw [hc] at hd; cases hd

theorem startsWith_iff (x p : Bytes) : startsWith x p = true ↔ ∃ t, x = p ++ t := by
  fun_induction startsWith x p with
  | case1 x => simp
  | case2 p ps => simp
  | case3 c cs p ps ih =>
    simp only [Bool.and_eq_true, byte_beq, ih, List.cons_append, List.cons.injEq]
    constructor
    · rintro ⟨rfl, t, rfl⟩; exact ⟨t, rfl, rfl⟩
    · rintro ⟨t, rfl, rfl⟩; exact ⟨rfl, t, rfl⟩

@[simp] theorem startsWith_nil (x : Bytes) : startsWith x [] = true := by
  cases x <;> rfl

@[simp] theorem startsWith_append_self (p t : Bytes) : startsWith (p ++ t) p = true :=
  (startsWith_iff _ _).2 ⟨t, rfl⟩

theorem startsWith_self (p : Bytes) : startsWith p p = true := by
  simpa using startsWith_append_self p []

theorem startsWith_append_of_le (x y p : Bytes) (h : p.length ≤ x.length) :
    startsWith (x ++ y) p = startsWith x p := by
  fun_induction startsWith x p with
  | case1 x => simp
  | case2 p ps => simp at h
  | case3 c cs p ps ih =>
    simp only [List.length_cons, Nat.add_le_add_iff_right] at h
    simp [startsWith, ih h]

@[simp] theorem splitCRLF_nil : splitCRLF [] = none := rfl
@[simp] theorem splitCRLF_singleton (c : UInt8) : splitCRLF [c] = none := rfl

theorem splitCRLF_some {x l r : Bytes} (h : splitCRLF x = some (l, r)) :
    x = l ++ CRLF ++ r ∧ splitCRLF l = none := by
  fun_induction splitCRLF x generalizing l r with
  | case1 => cases h
  | case2 => cases h
  | case3 c d rest hc =>
    cases h
    simp only [Bool.and_eq_true, byte_beq] at hc
    exact ⟨by rw [hc.1, hc.2]; rfl, rfl⟩
  | case4 c d rest hc hn ih => cases h
  | case5 c d rest hc l' r' hs ih =>
    cases h
    obtain ⟨he, hl⟩ := ih hs
    refine ⟨by rw [he]; rfl, ?_⟩
    cases l' with
    | nil => rfl
    | cons e l'' =>
      cases (List.cons.inj he).1
      rw [splitCRLF, if_neg hc, hl]

theorem splitCRLF_some_length {x l r : Bytes} (h : splitCRLF x = some (l, r)) :
    x.length = l.length + 2 + r.length := by
  rw [(splitCRLF_some h).1, List.length_append, List.length_append]; rfl

theorem splitCRLF_render {l : Bytes} (h : splitCRLF l = none) (r : Bytes) :
    splitCRLF (l ++ CRLF ++ r) = some (l, r) := by
  fun_induction splitCRLF l with
  | case1 => rfl
  | case2 c =>
    have hc : ¬ (c == 13 && (13 : UInt8) == 10) = true := by simp
    show splitCRLF (c :: 13 :: 10 :: r) = _
    rw [splitCRLF, if_neg hc]; rfl
  | case3 c d rest hc => cases h
  | case4 c d rest hc hn ih =>
    have := ih hn
    simp only [List.cons_append] at this ⊢
    rw [splitCRLF, if_neg hc, this]
  | case5 c d rest hc l' r' hs ih => cases h

theorem splitCRLF_some_iff {x l r : Bytes} :
    splitCRLF x = some (l, r) ↔ x = l ++ CRLF ++ r ∧ splitCRLF l = none :=
  ⟨splitCRLF_some, fun ⟨h1, h2⟩ => h1 ▸ splitCRLF_render h2 r⟩

theorem splitCRLF_append_some {a l r : Bytes} (h : splitCRLF a = some (l, r)) (y : Bytes) :
    splitCRLF (a ++ y) = some (l, r ++ y) := by
  rw [(splitCRLF_some h).1, List.append_assoc]
  exact splitCRLF_render (splitCRLF_some h).2 (r ++ y)

theorem splitCRLF_none_of_append {a y : Bytes} (h : splitCRLF (a ++ y) = none) : splitCRLF a = none := by
  cases ha : splitCRLF a with
  | none => rfl
  | some p => obtain ⟨l, r⟩ := p; rw [splitCRLF_append_some ha] at h; simp at h

theorem splitCRLF_none_of_not_mem {x : Bytes} {c : UInt8} (hc : c ∈ CRLF) (h : c ∉ x) :
    splitCRLF x = none := by
  cases hx : splitCRLF x with
  | none => rfl
  | some p => exact absurd (by rw [(splitCRLF_some hx).1]; simp [hc]) h

theorem splitCRLF_none_of_noLF {x : Bytes} (h : ∀ c ∈ x, c ≠ LF) : splitCRLF x = none :=
  splitCRLF_none_of_not_mem (c := LF) (.tail _ (.head _)) fun hm => h _ hm rfl

theorem splitCRLF_none_of_noCR {x : Bytes} (h : ∀ c ∈ x, c ≠ CR) : splitCRLF x = none :=
  splitCRLF_none_of_not_mem (c := CR) (.head _) fun hm => h _ hm rfl

/-- when `a` does not end in CR no CRLF straddles the seam -/
theorem splitCRLF_append_none {a : Bytes} (h : splitCRLF a = none) (hl : a.getLast? ≠ some CR) (y : Bytes) :
    splitCRLF (a ++ y) = (splitCRLF y).map (fun p => (a ++ p.1, p.2)) := by
  fun_induction splitCRLF a with
  | case1 => show splitCRLF y = _; cases splitCRLF y <;> rfl
  | case2 c =>
    have hc : ¬ (c == 13) = true := fun e => hl (byte_beq.1 e ▸ rfl)
    cases y with
    | nil => rfl
    | cons d y' =>
      show splitCRLF (c :: d :: y') = _
      rw [splitCRLF, if_neg (fun e => hc (Bool.and_eq_true_iff.1 e).1)]
      rcases splitCRLF (d :: y') with _ | ⟨l, r⟩ <;> rfl
  | case3 c d rest hc => cases h
  | case4 c d rest hc hn ih =>
    have := ih hn (by rwa [List.getLast?_cons_cons] at hl)
    simp only [List.cons_append] at this ⊢
    rw [splitCRLF, if_neg hc, this]
    rcases splitCRLF y with _ | ⟨l, r⟩ <;> rfl
  | case5 c d rest hc l' r' hs ih => cases h

theorem splitOnce1_render (sep : UInt8) (l r : Bytes) (h : sep ∉ l) :
    splitOnce1 sep (l ++ sep :: r) = some (l, r) := by
  induction l with
  | nil => rw [List.nil_append, splitOnce1, if_pos (byte_beq.2 rfl)]
  | cons c l ih =>
    have hc : ¬ (c == sep) = true := fun e => h (byte_beq.1 e ▸ List.mem_cons_self)
    rw [List.cons_append, splitOnce1, if_neg hc, ih (fun h' => h (List.mem_cons_of_mem _ h'))]

theorem splitOnce1_of_not_mem (sep : UInt8) (x : Bytes) (h : sep ∉ x) : splitOnce1 sep x = none := by
  induction x with
  | nil => rfl
  | cons c cs ih =>
    have hc : ¬ (c == sep) = true := fun e => h (byte_beq.1 e ▸ List.mem_cons_self)
    rw [splitOnce1, if_neg hc, ih (fun h' => h (List.mem_cons_of_mem _ h'))]

theorem splitOnce1_none_iff (sep : UInt8) (x : Bytes) : splitOnce1 sep x = none ↔ sep ∉ x := by
  refine ⟨fun hn hm => ?_, splitOnce1_of_not_mem sep x⟩
  obtain ⟨l, r, rfl, hl⟩ := List.eq_append_cons_of_mem hm
  rw [splitOnce1_render sep l r hl] at hn; cases hn

theorem splitOnce1_some_iff (sep : UInt8) (x l r : Bytes) :
    splitOnce1 sep x = some (l, r) ↔ x = l ++ sep :: r ∧ sep ∉ l := by
  refine ⟨fun h => ?_, fun ⟨hx, hl⟩ => hx ▸ splitOnce1_render sep l r hl⟩
  have hm : sep ∈ x := Classical.not_not.1 fun hn => by rw [splitOnce1_of_not_mem sep x hn] at h; cases h
  obtain ⟨l', r', rfl, hl'⟩ := List.eq_append_cons_of_mem hm
  rw [splitOnce1_render sep l' r' hl'] at h; cases h
  exact ⟨rfl, hl'⟩

@[simp] theorem splitN1_zero (sep : UInt8) (x : Bytes) : splitN1 sep 0 x = [x] := rfl

theorem splitN1_succ_of_not_mem (sep : UInt8) (n : Nat) (x : Bytes) (h : sep ∉ x) :
    splitN1 sep (n + 1) x = [x] := by
  rw [splitN1, splitOnce1_of_not_mem sep x h]

theorem splitN1_succ_render (sep : UInt8) (n : Nat) (l r : Bytes) (h : sep ∉ l) :
    splitN1 sep (n + 1) (l ++ sep :: r) = l :: splitN1 sep n r := by
  rw [splitN1, splitOnce1_render sep l r h]

theorem splitN1_three (sep : UInt8) (x y z : Bytes) (hx : sep ∉ x) (hy : sep ∉ y) :
    splitN1 sep 2 (x ++ sep :: (y ++ sep :: z)) = [x, y, z] := by
  rw [splitN1_succ_render sep 1 x _ hx, splitN1_succ_render sep 0 y _ hy, splitN1_zero]

theorem strip_cons_ws {c : UInt8} (x : Bytes) (h : isWs c = true) : strip (c :: x) = strip x := by
  simp [strip, lstrip, h]

theorem lstrip_of_head {c : UInt8} {cs : Bytes} (h : isWs c = false) : lstrip (c :: cs) = c :: cs := by
  simp [lstrip, h]

theorem lstrip_spec (x : Bytes) : ∃ p, x = p ++ lstrip x ∧ (∀ c ∈ p, isWs c = true) ∧
    ∀ c, (lstrip x).head? = some c → isWs c = false := by
  induction x with
  | nil => exact ⟨[], rfl, nofun, nofun⟩
  | cons c cs ih =>
    by_cases h : isWs c = true
    · obtain ⟨p, hp, hw, hh⟩ := ih
      rw [lstrip, if_pos h]
      exact ⟨c :: p, congrArg (c :: ·) hp, fun d hd => (List.mem_cons.1 hd).elim (· ▸ h) (hw d), hh⟩
    · rw [lstrip, if_neg h]
      exact ⟨[], rfl, nofun, fun d hd => by cases hd; exact Bool.eq_false_iff.2 h⟩

theorem lstrip_suffix (x : Bytes) : ∃ p, x = p ++ lstrip x ∧ ∀ c ∈ p, isWs c = true :=
  let ⟨p, hp, hw, _⟩ := lstrip_spec x
  ⟨p, hp, hw⟩

theorem lstrip_eq_nil_iff (x : Bytes) : lstrip x = [] ↔ ∀ c ∈ x, isWs c = true := by
  induction x with
  | nil => exact ⟨nofun, fun _ => rfl⟩
  | cons c cs ih =>
    rw [lstrip, List.forall_mem_cons]
    by_cases h : isWs c = true
    · rw [if_pos h, ih]; exact (and_iff_right h).symm
    · rw [if_neg h]; exact ⟨nofun, fun h' => absurd h'.1 h⟩

theorem lstrip_length_le (x : Bytes) : (lstrip x).length ≤ x.length := by
  obtain ⟨p, hp, -, -⟩ := lstrip_spec x
  have := congrArg List.length hp
  rw [List.length_append] at this
  exact this ▸ Nat.le_add_left _ _

theorem lstrip_eq_self : ∀ {x : Bytes}, (∀ c, x.head? = some c → isWs c = false) → lstrip x = x
  | [], _ => rfl
  | c :: _, h => lstrip_of_head (h c rfl)

theorem lstrip_idem (x : Bytes) : lstrip (lstrip x) = lstrip x :=
  let ⟨_, _, _, hh⟩ := lstrip_spec x
  lstrip_eq_self hh

theorem rstrip_eq_nil_iff (x : Bytes) : rstrip x = [] ↔ ∀ c ∈ x, isWs c = true := by
  simp [rstrip, lstrip_eq_nil_iff]

theorem strip_eq_nil_iff (x : Bytes) : strip x = [] ↔ ∀ c ∈ x, isWs c = true := by
  rw [strip, rstrip_eq_nil_iff, ← lstrip_eq_nil_iff, lstrip_idem, lstrip_eq_nil_iff]

theorem strip_isEmpty_iff (x : Bytes) : (strip x).isEmpty = true ↔ ∀ c ∈ x, isWs c = true := by
  rw [List.isEmpty_iff, strip_eq_nil_iff]

theorem strip_eq_self {x : Bytes} (hh : ∀ c, x.head? = some c → isWs c = false)
    (hl : ∀ c, x.getLast? = some c → isWs c = false) : strip x = x := by
  rw [strip, rstrip, lstrip_eq_self hh, lstrip_eq_self (by rwa [List.head?_reverse]), List.reverse_reverse]

theorem strip_nil : strip [] = [] := rfl

theorem strip_ne_nil {x : Bytes} {c : UInt8} (hc : c ∈ x) (hw : isWs c = false) : strip x ≠ [] :=
  fun h => nomatch hw.symm.trans ((strip_eq_nil_iff x).1 h c hc)

@[simp] theorem lower_nil : lower [] = [] := rfl
@[simp] theorem lower_length (x : Bytes) : (lower x).length = x.length := by simp [lower]
theorem lower_append (x y : Bytes) : lower (x ++ y) = lower x ++ lower y := by simp [lower]

theorem lowerByte_idem (c : UInt8) : lowerByte (lowerByte c) = lowerByte c := by
  unfold lowerByte
  split
  · rename_i h
    -- an upper-case letter plus 32 is not upper-case (and `c + 32` does not wrap)
    rw [if_neg]
    simp only [Bool.and_eq_true, decide_eq_true_eq, UInt8.le_iff_toNat_le, UInt8.toNat_add,
      UInt8.reduceToNat] at h ⊢
    omega
  · rfl

theorem lower_idem (x : Bytes) : lower (lower x) = lower x := by
  simp [lower, lowerByte_idem]

theorem lower_eq_self {x : Bytes} (h : ∀ c ∈ x, ¬ (65 ≤ c ∧ c ≤ 90)) : lower x = x :=
  (List.map_congr_left fun c hc => if_neg fun e => h c hc (by simpa using e)).trans (List.map_id x)

theorem noCR_sp {a c : Bytes} (ha : ∀ x ∈ a, x ≠ CR) (hc : ∀ x ∈ c, x ≠ CR) : ∀ x ∈ a ++ SP :: c, x ≠ CR := by
  intro x hx
  rcases List.mem_append.1 hx with h | h
  · exact ha x h
  · rcases List.mem_cons.1 h with rfl | h
    · decide
    · exact hc x h

theorem takeWhile_all {α} (p : α → Bool) (l : List α) (h : ∀ x ∈ l, p x = true) :
    l.takeWhile p = l ∧ l.dropWhile p = [] := by
  induction l with
  | nil => exact ⟨rfl, rfl⟩
  | cons a t ih =>
    have := ih (fun x hx => h x (List.mem_cons_of_mem _ hx))
    rw [List.takeWhile_cons, List.dropWhile_cons, h a List.mem_cons_self, this.1, this.2]
    exact ⟨rfl, rfl⟩

end Px

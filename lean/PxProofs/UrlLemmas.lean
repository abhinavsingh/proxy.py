import PxModel.Url
import PxProofs.BytesLemmas
import PxProofs.Lit
/-!
# Python's `split` and `join` on bytes

`splitN1` / `splitAll1` (`split(sep[, n])`) and `join` undo each other; what a given split result says about
the input; `splitOnceSeq` (`split(b'://', 1)`).
Own namespace so that nothing clashes with `PxProofs/BytesLemmas.lean`.
-/
namespace Px.UrlL

open Px Px.Url

theorem splitN1_of_not_mem (sep : UInt8) (n : Nat) (x : Bytes) (h : sep ∉ x) : splitN1 sep n x = [x] := by
  cases n with
  | zero => rfl
  | succ n => exact splitN1_succ_of_not_mem sep n x h

theorem splitN1_ne_nil (sep : UInt8) (n : Nat) (x : Bytes) : splitN1 sep n x ≠ [] := by
  cases n with
  | zero => simp [splitN1]
  | succ n => unfold splitN1; split <;> simp

theorem splitN1_length_le (sep : UInt8) (n : Nat) (x : Bytes) : (splitN1 sep n x).length ≤ n + 1 := by
  induction n generalizing x with
  | zero => simp [splitN1]
  | succ n ih =>
    unfold splitN1
    split
    · simp
    · simpa using ih _

theorem join_cons_of_ne_nil (sep x : Bytes) (xs : List Bytes) (h : xs ≠ []) :
    join sep (x :: xs) = x ++ sep ++ join sep xs := by
  cases xs with
  | nil => exact absurd rfl h
  | cons y ys => rfl

theorem join_splitN1 (sep : UInt8) (n : Nat) (x : Bytes) : join [sep] (splitN1 sep n x) = x := by
  induction n generalizing x with
  | zero => rfl
  | succ n ih =>
    unfold splitN1
    cases h : splitOnce1 sep x with
    | none => rfl
    | some p =>
      obtain ⟨l, r⟩ := p
      rw [join_cons_of_ne_nil _ _ _ (splitN1_ne_nil sep n r), ih r, ((splitOnce1_some_iff sep x l r).1 h).1]
      simp

theorem splitN1_join (sep : UInt8) (n : Nat) (ps : List Bytes) (hps : ∀ p ∈ ps, sep ∉ p) (hne : ps ≠ [])
    (hn : ps.length ≤ n + 1) : splitN1 sep n (join [sep] ps) = ps := by
  induction ps generalizing n with
  | nil => exact absurd rfl hne
  | cons p qs ih =>
    cases qs with
    | nil => exact splitN1_of_not_mem sep n p (hps p (by simp))
    | cons q rest =>
      cases n with
      | zero => simp at hn
      | succ n =>
        show splitN1 sep (n + 1) (p ++ [sep] ++ join [sep] (q :: rest)) = _
        rw [List.append_assoc, List.singleton_append, splitN1_succ_render sep n p _ (hps p (by simp)),
          ih n (fun x hx => hps x (by simp [hx])) (by simp) (by simpa using hn)]

theorem exists_first {sep : UInt8} {x : Bytes} (h : 0 < x.count sep) :
    ∃ l r, x = l ++ sep :: r ∧ sep ∉ l ∧ x.count sep = r.count sep + 1 := by
  cases hs : splitOnce1 sep x with
  | none => rw [List.count_eq_zero_of_not_mem ((splitOnce1_none_iff sep x).1 hs)] at h; cases h
  | some q =>
    obtain ⟨hx, hl⟩ := (splitOnce1_some_iff sep x q.1 q.2).1 hs
    exact ⟨q.1, q.2, hx, hl, by
      rw [hx, List.count_append, List.count_eq_zero_of_not_mem hl, List.count_cons_self, Nat.zero_add]⟩

theorem splitN1_no_sep (sep : UInt8) (n : Nat) (x : Bytes) (hn : x.count sep ≤ n) :
    ∀ l ∈ splitN1 sep n x, sep ∉ l := by
  have base : ∀ n x, sep ∉ x → ∀ l ∈ splitN1 sep n x, sep ∉ l := fun n x hx l hl => by
    rw [splitN1_of_not_mem sep n x hx, List.mem_singleton] at hl; rwa [hl]
  induction n generalizing x with
  | zero => exact base 0 x fun hm => by have := List.count_pos_iff.2 hm; omega
  | succ n ih =>
    by_cases h0 : 0 < x.count sep
    · obtain ⟨a, r, rfl, ha, hc⟩ := exists_first h0
      intro l hl
      rw [splitN1_succ_render sep n a r ha, List.mem_cons] at hl
      exact hl.elim (fun e => e ▸ ha) (ih r (by omega) l)
    · exact base _ x fun hm => h0 (List.count_pos_iff.2 hm)

theorem splitAll1_of_not_mem (sep : UInt8) (x : Bytes) (h : sep ∉ x) : splitAll1 sep x = [x] :=
  splitN1_of_not_mem sep _ x h

theorem join_splitAll1 (sep : UInt8) (x : Bytes) : join [sep] (splitAll1 sep x) = x :=
  join_splitN1 sep _ x

theorem splitAll1_no_sep (sep : UInt8) (x : Bytes) : ∀ l ∈ splitAll1 sep x, sep ∉ l :=
  splitN1_no_sep sep _ x List.count_le_length

theorem join_append_singleton (sep : Bytes) (xs : List Bytes) (y : Bytes) (h : xs ≠ []) :
    join sep (xs ++ [y]) = join sep xs ++ sep ++ y := by
  induction xs with
  | nil => exact absurd rfl h
  | cons a as ih =>
    cases as with
    | nil => simp [join]
    | cons c cs =>
      have := ih (by simp)
      simp only [List.cons_append] at this ⊢
      simp [join, this]

theorem splitAll1_append_last (sep : UInt8) (x y : Bytes) (hy : sep ∉ y) :
    splitAll1 sep (x ++ sep :: y) = splitAll1 sep x ++ [y] := by
  have hne : splitAll1 sep x ≠ [] := splitN1_ne_nil sep _ x
  have hj : x ++ sep :: y = join [sep] (splitAll1 sep x ++ [y]) := by
    rw [join_append_singleton _ _ _ hne, join_splitAll1]; simp
  have hl := splitN1_length_le sep x.length x
  rw [hj]
  refine splitN1_join sep _ _ ?_ (by simp) ?_
  · intro p hp
    rcases List.mem_append.1 hp with h | h
    · exact splitAll1_no_sep sep x p h
    · rw [List.mem_singleton.1 h]; exact hy
  · rw [← hj]; simp [splitAll1]; omega

theorem splitN1_succ_eq_singleton {sep : UInt8} {n : Nat} {x h : Bytes} (e : splitN1 sep (n + 1) x = [h]) :
    x = h ∧ sep ∉ h := by
  unfold splitN1 at e
  cases hs : splitOnce1 sep x with
  | none => rw [hs] at e; simp at e; subst e; exact ⟨rfl, (splitOnce1_none_iff sep x).1 hs⟩
  | some q => rw [hs] at e; simp at e; exact absurd e.2 (splitN1_ne_nil sep n _)

theorem splitN1_succ_eq_cons {sep : UInt8} {n : Nat} {x l p : Bytes} {ps : List Bytes}
    (e : splitN1 sep (n + 1) x = l :: p :: ps) :
    ∃ r, x = l ++ sep :: r ∧ sep ∉ l ∧ splitN1 sep n r = p :: ps := by
  unfold splitN1 at e
  cases hs : splitOnce1 sep x with
  | none => rw [hs] at e; simp at e
  | some q =>
    obtain ⟨a, r⟩ := q
    rw [hs] at e
    simp only [List.cons.injEq] at e
    obtain ⟨hx, ha⟩ := (splitOnce1_some_iff sep x a r).1 hs
    exact ⟨r, by rw [hx, e.1], e.1 ▸ ha, e.2⟩

theorem splitN1_two_eq_pair {sep : UInt8} {x h p : Bytes} (e : splitN1 sep 2 x = [h, p]) :
    x = h ++ sep :: p ∧ sep ∉ h ∧ sep ∉ p := by
  obtain ⟨r, hx, hh, e⟩ := splitN1_succ_eq_cons e
  obtain ⟨rfl, hp⟩ := splitN1_succ_eq_singleton e
  exact ⟨hx, hh, hp⟩

/-- a separator is put in front of `x` so that the one-part case (`init = []`) has the same shape -/
theorem splitAll1_last (sep : UInt8) (x : Bytes) :
    ∃ init y, splitAll1 sep x = init ++ [y] ∧ sep ∉ y ∧ join [sep] init <+: x ∧
      ∃ pre, sep :: x = pre ++ sep :: y := by
  rcases List.eq_nil_or_concat (splitAll1 sep x) with h | ⟨init, y, h⟩
  · exact absurd h (splitN1_ne_nil sep _ x)
  · rw [List.concat_eq_append] at h
    have hj := join_splitAll1 sep x
    rw [h] at hj
    refine ⟨init, y, h, splitAll1_no_sep sep x y (by rw [h]; simp), ?_⟩
    by_cases hi : init = []
    · subst hi
      exact ⟨List.nil_prefix, [], by rw [← hj]; rfl⟩
    · rw [join_append_singleton _ _ _ hi] at hj
      exact ⟨⟨[sep] ++ y, by rw [← hj, List.append_assoc]⟩, sep :: join [sep] init, by rw [← hj]; simp⟩

theorem splitOnceSeq_some_eq (sep : Bytes) {x l r : Bytes} (h : splitOnceSeq sep x = some (l, r)) :
    x = l ++ sep ++ r := by
  fun_induction splitOnceSeq sep x generalizing l r with
  | case1 => simp at h
  | case2 c cs hs =>
    simp at h; obtain ⟨rfl, rfl⟩ := h
    obtain ⟨t, ht⟩ := (startsWith_iff _ _).1 hs
    rw [ht]; simp
  | case3 c cs hs hn ih => simp at h
  | case4 c cs hs l' r' hr ih =>
    simp at h; obtain ⟨rfl, rfl⟩ := h
    have := ih hr
    simp [this]

theorem splitOnceSeq_none_of_not_mem' (sep x : Bytes) (c : UInt8) (hc : c ∈ sep) (h : c ∉ x) :
    splitOnceSeq sep x = none := by
  induction x with
  | nil => rfl
  | cons d ds ih =>
    have hs : startsWith (d :: ds) sep = false := by
      cases hb : startsWith (d :: ds) sep with
      | false => rfl
      | true =>
        obtain ⟨t, ht⟩ := (startsWith_iff _ _).1 hb
        exact absurd (by rw [ht]; simp [hc]) h
    simp only [List.mem_cons, not_or] at h
    unfold splitOnceSeq
    simp [hs, ih h.2]

theorem splitOnceSeq_none_of_not_mem (c0 : UInt8) (rest x : Bytes) (h : c0 ∉ x) :
    splitOnceSeq (c0 :: rest) x = none :=
  splitOnceSeq_none_of_not_mem' _ x c0 (by simp) h

theorem splitOnceSeq_render (c0 : UInt8) (rest s r : Bytes) (h : c0 ∉ s) :
    splitOnceSeq (c0 :: rest) (s ++ (c0 :: rest) ++ r) = some (s, r) := by
  induction s with
  | nil =>
    simp only [List.nil_append, List.cons_append]
    unfold splitOnceSeq
    have : startsWith (c0 :: (rest ++ r)) (c0 :: rest) = true := by
      have := startsWith_append_self (c0 :: rest) r
      simpa using this
    simp [this]
  | cons c cs ih =>
    simp only [List.mem_cons, not_or] at h
    have hs : startsWith (c :: (cs ++ (c0 :: rest) ++ r)) (c0 :: rest) = false := by
      simp [startsWith]; intro e; exact absurd e.symm h.1
    have ih' := ih h.2
    simp only [List.cons_append, List.append_assoc] at hs ih' ⊢
    unfold splitOnceSeq
    simp [hs, ih']

end Px.UrlL

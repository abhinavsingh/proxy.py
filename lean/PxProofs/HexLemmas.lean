import PxModel.Bytes
import PxModel.PyInt
import PxProofs.BytesLemmas
import PxProofs.Lit
/-!
# Number rendering / parsing round trips

`int(s, base)` of a non-empty string of digits of the base is its positional value `digitsVal`;
`'{:x}'.format(n)` and `str(n)` are the schoolbook digit strings of `n` (`digits_spec`), whence
`int('{:x}'.format(n), 16) == n` and `int(str(n)) == n`.
-/
namespace Px

def digitsVal (base : Nat) (acc : Nat) (ds : Bytes) : Nat :=
  ds.foldl (fun a c => a * base + (digitVal c).getD 0) acc

@[simp] theorem digitsVal_nil (base acc : Nat) : digitsVal base acc [] = acc := rfl
@[simp] theorem digitsVal_cons (base acc : Nat) (c : UInt8) (cs : Bytes) :
    digitsVal base acc (c :: cs) = digitsVal base (acc * base + (digitVal c).getD 0) cs := rfl
theorem digitsVal_append (base acc : Nat) (a b : Bytes) :
    digitsVal base acc (a ++ b) = digitsVal base (digitsVal base acc a) b := by
  simp [digitsVal]

/-- ASCII letters and digits: the only bytes `int()` ever reads as digits -/
def alnum (c : UInt8) : Bool := (48 ≤ c && c ≤ 57) || (97 ≤ c && c ≤ 122) || (65 ≤ c && c ≤ 90)

theorem isDigitIn_alnum {base : Nat} {c : UInt8} (h : isDigitIn base c = true) : alnum c = true := by
  false_or_by_contra; rename_i hn
  simp only [alnum, Bool.or_eq_true, not_or] at hn
  simp only [isDigitIn, digitVal, hn.1.1, hn.1.2, hn.2] at h
  cases h

theorem isDigitIn_ne {base : Nat} {c k : UInt8} (h : isDigitIn base c = true) (hk : alnum k = false) :
    c ≠ k :=
  fun e => Bool.false_ne_true (hk.symm.trans (e ▸ isDigitIn_alnum h))

theorem isDigitIn_not_ws {base : Nat} {c : UInt8} (h : isDigitIn base c = true) : isWs c = false := by
  have nb : ∀ k, alnum k = false → (c == k) = false := fun k hk => byte_beq_false (isDigitIn_ne h hk)
  rw [isWs, nb 32 rfl, nb 9 rfl, nb 10 rfl, nb 13 rfl, nb 11 rfl, nb 12 rfl]; rfl

theorem isDigitIn16_not_x {c : UInt8} (h : isDigitIn 16 c = true) : c ≠ 120 ∧ c ≠ 88 := by
  constructor <;> (intro e; subst e; revert h; decide)

theorem scanDigits_digits (base : Nat) (ds rest : Bytes) (hne : ds ≠ [])
    (h : ∀ c ∈ ds, isDigitIn base c = true) (acc n prev : Nat) :
    scanDigits base (ds ++ rest) acc n prev =
      scanDigits base rest (digitsVal base acc ds) (n + ds.length) 1 := by
  induction ds generalizing acc n prev with
  | nil => exact absurd rfl hne
  | cons c cs ih =>
    have hc := h c (by simp)
    have h95 : (c == 95) = false := byte_beq_false (isDigitIn_ne hc rfl)
    simp only [List.cons_append, scanDigits, h95, hc, if_true, Bool.false_eq_true, if_false]
    by_cases hcs : cs = []
    · subst hcs; simp
    · rw [ih hcs (fun d hd => h d (List.mem_cons_of_mem _ hd))]
      rw [digitsVal_cons, List.length_cons, Nat.add_assoc, Nat.add_comm 1]

theorem pyInt_sign_match (c : UInt8) (cs : Bytes) (hp : c ≠ 43) (hm : c ≠ 45) :
    pyInt.match_1 (fun _ => Bool × List UInt8) (c :: cs) (fun r => (false, r)) (fun r => (true, r))
      (fun _ => (false, c :: cs)) = (false, c :: cs) := by
  split
  · rename_i r heq; simp only [List.cons.injEq] at heq; exact absurd heq.1 hp
  · rename_i r heq; simp only [List.cons.injEq] at heq; exact absurd heq.1 hm
  · rfl

theorem pyInt_prefix_match (s : Bytes) (h : ∀ c ∈ s, c ≠ 120 ∧ c ≠ 88) :
    pyInt.match_6 (fun _ => List UInt8) s
      (fun x r => if (x == 120 || x == 88) = true then
        pyInt.match_4 (fun _ => List UInt8) r (fun r' => r') (fun _ => r) else s)
      (fun _ => s) = s := by
  split
  · rename_i x r
    have := h x (List.mem_cons_of_mem _ List.mem_cons_self)
    rw [byte_beq_false this.1, byte_beq_false this.2]; rfl
  · rfl

theorem pyInt_digits (base : Nat) (s : Bytes) (hne : s ≠ []) (h : ∀ c ∈ s, isDigitIn base c = true)
    (hlen : base = 10 → s.length ≤ intMaxStrDigits) :
    pyInt base s = some (Int.ofNat (digitsVal base 0 s)) := by
  obtain ⟨c, cs, rfl⟩ := List.exists_cons_of_ne_nil hne
  have hc := h c List.mem_cons_self
  have hsc : scanDigits base (c :: cs) 0 0 0 =
      some (digitsVal base 0 (c :: cs), 0 + (c :: cs).length, []) := by
    rw [← List.append_nil (c :: cs), scanDigits_digits base _ [] hne h, List.append_nil]; rfl
  have hmax : ¬ (base == 10 && decide (0 + (c :: cs).length > intMaxStrDigits)) = true := by
    simp only [Bool.and_eq_true, beq_iff_eq, decide_eq_true_eq, Nat.zero_add]
    exact fun ⟨hb, hl⟩ => Nat.not_lt.2 (hlen hb) hl
  unfold pyInt
  simp only [lstrip_of_head (isDigitIn_not_ws hc),
    pyInt_sign_match c cs (isDigitIn_ne hc rfl) (isDigitIn_ne hc rfl)]
  -- no `0x` prefix is stripped: `x` is not a digit
  rw [ite_eq_right_iff.2 fun hb => by
    cases beq_iff_eq.1 hb
    exact pyInt_prefix_match (c :: cs) fun d hd => isDigitIn16_not_x (h d hd)]
  simp only [hsc, if_neg hmax]
  rfl

theorem pyInt_ws_none (base : Nat) (s : Bytes) (h : ∀ c ∈ s, isWs c = true) : pyInt base s = none := by
  have hl : lstrip s = [] := (lstrip_eq_nil_iff s).2 h
  unfold pyInt
  simp only [hl]
  have : scanDigits base (if (base == 16) = true then [] else []) 0 0 0 = none := by
    simp [scanDigits]
  simp only [this]

theorem div_lt_of_not_lt {b n : Nat} (hb : 2 ≤ b) (hn : ¬ n < b) : n / b < n :=
  Nat.div_lt_self (Nat.lt_of_lt_of_le (Nat.lt_of_lt_of_le (by decide) hb) (Nat.le_of_not_lt hn)) hb

theorem digitVal_hexDigit : ∀ d, d < 16 → digitVal (hexDigit d) = some d := by decide

/-- The schoolbook rendering of `n` in base `b` with digit bytes `dig`, in whichever way `f` computes it. -/
theorem digits_spec {b : Nat} {dig : Nat → UInt8} {f : Nat → Bytes} (hb : 2 ≤ b)
    (hf : ∀ n, f n = if n < b then [dig n] else f (n / b) ++ [dig (n % b)])
    (hd : ∀ d, d < b → digitVal (dig d) = some d) (n : Nat) :
    f n ≠ [] ∧ (∀ c ∈ f n, isDigitIn b c = true) ∧ digitsVal b 0 (f n) = n := by
  have hdig : ∀ d, d < b → isDigitIn b (dig d) = true := fun d h => by simp [isDigitIn, hd d h, h]
  induction n using Nat.strongRecOn with
  | ind n ih =>
    rw [hf]
    by_cases hn : n < b
    · rw [if_pos hn]
      exact ⟨List.cons_ne_nil _ _, fun c hc => List.mem_singleton.1 hc ▸ hdig n hn,
        by rw [digitsVal_cons, digitsVal_nil, hd n hn]; simp⟩
    · rw [if_neg hn]
      obtain ⟨-, h2, h3⟩ := ih (n / b) (div_lt_of_not_lt hb hn)
      have hm : n % b < b := Nat.mod_lt n (Nat.lt_of_lt_of_le (by decide) hb)
      refine ⟨by simp, fun c hc => ?_, ?_⟩
      · rcases List.mem_append.1 hc with hc | hc
        · exact h2 c hc
        · exact List.mem_singleton.1 hc ▸ hdig _ hm
      · rw [digitsVal_append, h3, digitsVal_cons, digitsVal_nil, hd _ hm, Option.getD_some]
        exact Nat.div_add_mod' n b

theorem digits_length_le {b : Nat} {dig : Nat → UInt8} {f : Nat → Bytes} (hb : 2 ≤ b)
    (hf : ∀ n, f n = if n < b then [dig n] else f (n / b) ++ [dig (n % b)])
    (n k : Nat) (hk : 0 < k) (h : n < b ^ k) : (f n).length ≤ k := by
  induction k generalizing n with
  | zero => omega
  | succ k ih =>
    rw [hf]
    by_cases hn : n < b
    · rw [if_pos hn]; exact Nat.succ_pos k
    · rw [if_neg hn, List.length_append]
      have hk0 : 0 < k := by
        rcases Nat.eq_zero_or_pos k with rfl | h0
        · rw [Nat.pow_one] at h; exact absurd h hn
        · exact h0
      exact Nat.succ_le_succ (ih (n / b) hk0 ((Nat.div_lt_iff_lt_mul (by omega)).2 h))

/-- lower-case hexadecimal digits of `n`, most significant first (specification of `natToHex`) -/
def hexDigits (n : Nat) : Bytes :=
  if n < 16 then [hexDigit n] else hexDigits (n / 16) ++ [hexDigit (n % 16)]
termination_by n
decreasing_by omega

theorem natToHexAux_eq (fuel n : Nat) (acc : Bytes) (h : n < fuel) :
    natToHexAux fuel n acc = hexDigits n ++ acc := by
  induction fuel generalizing n acc with
  | zero => omega
  | succ fuel ih =>
    rw [natToHexAux, hexDigits]
    by_cases hn : n < 16
    · rw [if_pos hn, if_pos hn]; rfl
    · have hlt := Nat.lt_of_lt_of_le (div_lt_of_not_lt (by decide) hn) (Nat.le_of_lt_succ h)
      rw [if_neg hn, if_neg hn, ih _ _ hlt, List.append_assoc]; rfl

theorem natToHex_eq (n : Nat) : natToHex n = hexDigits n := by
  rw [natToHex, natToHexAux_eq _ _ _ (Nat.lt_succ_self n), List.append_nil]

theorem hexDigits_spec (n : Nat) :
    hexDigits n ≠ [] ∧ (∀ c ∈ hexDigits n, isDigitIn 16 c = true) ∧
      digitsVal 16 0 (hexDigits n) = n :=
  digits_spec (by decide) (fun n => by rw [hexDigits]) digitVal_hexDigit n

theorem hexDigits_val (n : Nat) : digitsVal 16 0 (hexDigits n) = n := (hexDigits_spec n).2.2

theorem pyInt16_natToHex (n : Nat) : pyInt 16 (natToHex n) = some (Int.ofNat n) := by
  rw [natToHex_eq, pyInt_digits 16 _ (hexDigits_spec n).1 (hexDigits_spec n).2.1 (fun h => by cases h),
    hexDigits_val]

theorem natToHex_ne_nil (n : Nat) : natToHex n ≠ [] := natToHex_eq n ▸ (hexDigits_spec n).1

theorem natToHex_isDigit (n : Nat) : ∀ c ∈ natToHex n, isDigitIn 16 c = true :=
  natToHex_eq n ▸ (hexDigits_spec n).2.1

/-- decimal digits of `n`, most significant first (specification of `natToDec`) -/
def decDigits (n : Nat) : Bytes :=
  if n < 10 then [UInt8.ofNat (48 + n)] else decDigits (n / 10) ++ [UInt8.ofNat (48 + n % 10)]
termination_by n
decreasing_by omega

theorem utf8_digitChar : ∀ d : Fin 10,
    String.utf8EncodeChar (Nat.digitChar d.val) = [UInt8.ofNat (48 + d.val)] := by decide

theorem flatMap_toDigits (n : Nat) :
    (Nat.toDigits 10 n).flatMap String.utf8EncodeChar = decDigits n := by
  induction n using Nat.strongRecOn with
  | ind n ih =>
    rw [Nat.toDigits_eq_if (by decide), decDigits]
    by_cases hn : n < 10
    · simp only [hn, if_true, List.flatMap_cons, List.flatMap_nil, List.append_nil]
      exact utf8_digitChar ⟨n, hn⟩
    · simp only [hn, if_false, List.flatMap_append, ih (n / 10) (div_lt_of_not_lt (by decide) hn),
        List.flatMap_cons,
        List.flatMap_nil, List.append_nil]
      rw [utf8_digitChar ⟨n % 10, Nat.mod_lt _ (by decide)⟩]

theorem natToDec_eq (n : Nat) : natToDec n = decDigits n := by
  show b (toString n) = _
  rw [Nat.toString_eq_ofList_toDigits, b_ofList, flatMap_toDigits]

theorem decDigits_spec (n : Nat) :
    decDigits n ≠ [] ∧ (∀ c ∈ decDigits n, isDigitIn 10 c = true) ∧
      digitsVal 10 0 (decDigits n) = n :=
  -- the decimal digit bytes are the first ten of the hexadecimal ones
  digits_spec (by decide) (fun n => by rw [decDigits])
    (fun d h => by have := digitVal_hexDigit d (by omega); rwa [hexDigit, if_pos h] at this) n

/-- `h`: CPython refuses decimal texts of more than int-max-str-digits digits; so does the model. -/
theorem pyInt10_natToDec (n : Nat) (h : n < 10 ^ intMaxStrDigits) :
    pyInt 10 (natToDec n) = some (Int.ofNat n) := by
  rw [natToDec_eq, pyInt_digits 10 _ (decDigits_spec n).1 (decDigits_spec n).2.1
    (fun _ => digits_length_le (by decide) (fun n => by rw [decDigits]) n _ (by decide) h),
    (decDigits_spec n).2.2]

theorem natToDec_ne_nil (n : Nat) : natToDec n ≠ [] := natToDec_eq n ▸ (decDigits_spec n).1

theorem natToDec_isDigit (n : Nat) : ∀ c ∈ natToDec n, isDigitIn 10 c = true :=
  natToDec_eq n ▸ (decDigits_spec n).2.1

/-- the guard of `pyInt10_natToDec` only excludes numbers of more than 4300 digits -/
example : (300000 : Nat) < 10 ^ intMaxStrDigits := by
  have : (10 : Nat) ^ 6 ≤ 10 ^ intMaxStrDigits := Nat.pow_le_pow_right (by decide) (by decide)
  omega

theorem digits_noCRLF {base : Nat} {s : Bytes} (h : ∀ c ∈ s, isDigitIn base c = true) (t : Bytes)
    (ht : splitCRLF t = none) : splitCRLF (s ++ t) = none := by
  have hcr : ∀ c ∈ s, c ≠ CR := fun c hc => isDigitIn_ne (h c hc) rfl
  rw [splitCRLF_append_none (splitCRLF_none_of_noCR hcr) (fun e => hcr _ (List.mem_of_getLast? e) rfl), ht]
  rfl

theorem natToDec_noWs (n : Nat) : ∀ c ∈ natToDec n, isWs c = false ∧ c ≠ 13 ∧ c ≠ 10 ∧ c ≠ 32 := by
  intro c hc
  have hd := natToDec_isDigit n c hc
  exact ⟨isDigitIn_not_ws hd, isDigitIn_ne hd rfl, isDigitIn_ne hd rfl, isDigitIn_ne hd rfl⟩

end Px

import PxProofs.UrlAuthLemmas
/-!
# What `Url._parse` returns is a piece of its input; `Url._parse` on well-formed authorities;
`Url.from_bytes` per request-target form
-/
namespace Px.UrlL
open Px Px.Url

theorem v6Split_spec {hp a c last : Bytes} (hs : splitN1 COLON 2 hp = [a, c, last]) :
    (v6Split hp a c last).1 <+: hp ∧
    (∀ v, (v6Split hp a c last).2 = some v → ∃ pre s, hp = pre ++ COLON :: s ∧ COLON ∉ s ∧ pyInt 10 s = some v) := by
  have hx : hp = a ++ COLON :: (c ++ COLON :: last) := by
    rw [← join_splitN1 COLON 2 hp, hs]; simp [join]
  obtain ⟨init, y, hl, hy, ⟨s, hs⟩, pre, hpre⟩ := splitAll1_last COLON last
  unfold v6Split
  rw [hl, List.getLast?_concat, List.dropLast_concat, Option.getD_some]
  cases hv : pyInt 10 y with
  | none => exact ⟨List.prefix_refl hp, fun v hv => nomatch hv⟩
  | some v =>
    refine ⟨⟨s, by rw [hx, ← hs]; simp⟩, fun v' hv' => ⟨a ++ COLON :: c ++ pre, y, ?_, hy, hv.trans hv'⟩⟩
    rw [hx, List.append_assoc, ← hpre]
    simp

theorem hostPort_plain (raw : Bytes) (u p : Option Bytes) (h : Bytes) (hc : COLON ∉ h) :
    hostPort raw u p h = .ok (u, p, h, none) := by
  unfold hostPort; rw [splitN1_of_not_mem COLON 2 h hc]

theorem hostPort_plain_port (raw : Bytes) (u p : Option Bytes) (h ds : Bytes) (v : Int)
    (hc : COLON ∉ h) (hd : COLON ∉ ds) (hv : pyInt 10 ds = some v) :
    hostPort raw u p (h ++ COLON :: ds) = .ok (u, p, h, some v) := by
  unfold hostPort
  rw [splitN1_succ_render COLON 1 h ds hc, splitN1_succ_of_not_mem COLON 0 ds hd]
  simp only [hv]

/-- what is used of an IPv6 address text (the part between the brackets) -/
def V6Text (t : Bytes) : Prop := (∀ c ∈ t, c.toNat < 128) ∧ 2 ≤ t.count COLON

theorem V6Text.ascii {t : Bytes} (h : V6Text t) : ∀ c ∈ [LBR] ++ t ++ [RBR], c.toNat < 128 := by
  intro c hc
  simp only [List.append_assoc, List.mem_append, List.mem_cons, List.not_mem_nil, or_false] at hc
  rcases hc with rfl | hc | rfl
  · decide
  · exact h.1 c hc
  · decide

theorem V6Text.split {t : Bytes} (ht : V6Text t) (tail : Bytes) :
    ∃ a c rest, t = a ++ COLON :: (c ++ COLON :: rest) ∧
      splitN1 COLON 2 ([LBR] ++ t ++ [RBR] ++ tail) = [LBR :: a, c, rest ++ [RBR] ++ tail] := by
  obtain ⟨a, r, hta, ha, hn⟩ := exists_first (sep := COLON) (x := t) (by have := ht.2; omega)
  obtain ⟨c, rest, hr, hc, _⟩ := exists_first (sep := COLON) (x := r) (by have := ht.2; omega)
  have ha' : COLON ∉ LBR :: a := by
    simp only [List.mem_cons, not_or]; exact ⟨by decide, ha⟩
  refine ⟨a, c, rest, by rw [hta, hr], ?_⟩
  rw [← splitN1_three COLON _ c _ ha' hc, hta, hr]
  simp

theorem splitAll1_snoc (sep c : UInt8) (hc : c ≠ sep) (x : Bytes) :
    ∃ init y, splitAll1 sep (x ++ [c]) = init ++ [y ++ [c]] := by
  obtain ⟨_, y, _, hy, _, pre, hx⟩ := splitAll1_last sep x
  have hyc : sep ∉ y ++ [c] := by simp [hy, Ne.symm hc]
  cases pre with
  | nil =>
    simp only [List.nil_append, List.cons.injEq, true_and] at hx
    exact ⟨[], y, by rw [hx, splitAll1_of_not_mem sep _ hyc]; rfl⟩
  | cons d pre =>
    simp only [List.cons_append, List.cons.injEq] at hx
    exact ⟨splitAll1 sep pre, y, by rw [hx.2, List.append_assoc, List.cons_append, splitAll1_append_last sep _ _ hyc]⟩

theorem wrapV6_of_head_lbr (h : Bytes) (hh : h.head? = some LBR) : wrapV6 h = h := by
  unfold wrapV6; simp [hh]

theorem hostPort_v6_noport (raw : Bytes) (u p : Option Bytes) (t : Bytes) (ht : V6Text t) :
    hostPort raw u p ([LBR] ++ t ++ [RBR]) = .ok (u, p, [LBR] ++ t ++ [RBR], none) := by
  obtain ⟨a, c, rest, _, hs⟩ := ht.split []
  rw [List.append_nil, List.append_nil] at hs
  -- the text after the last colon ends in `]`: not a number, so the whole text is the host
  have hv : ∀ hp0, v6Split hp0 (LBR :: a) c (rest ++ [RBR]) = (hp0, none) := by
    intro hp0
    obtain ⟨init, y, hl⟩ := splitAll1_snoc COLON RBR (by decide) rest
    have hg : (splitAll1 COLON (rest ++ [RBR])).getLast?.getD [] = y ++ [RBR] := by rw [hl]; simp
    unfold v6Split
    rw [hg, pyInt_none_of_foreign _ RBR (by simp) (by decide) (by decide) (by decide) (by decide) (by decide)]
  unfold hostPort
  rw [hs]
  simp only [hv, utf8Valid_ascii _ ht.ascii, if_true, wrapV6_of_head_lbr ([LBR] ++ t ++ [RBR]) (by simp)]

theorem hostPort_v6_port (raw : Bytes) (u p : Option Bytes) (t ds : Bytes) (v : Int) (ht : V6Text t)
    (hd : COLON ∉ ds) (hv : pyInt 10 ds = some v) :
    hostPort raw u p ([LBR] ++ t ++ [RBR] ++ COLON :: ds) = .ok (u, p, [LBR] ++ t ++ [RBR], some v) := by
  obtain ⟨a, c, rest, he, hs⟩ := ht.split (COLON :: ds)
  -- `ds` is the text after the last colon; what is before it, joined again, is `t]`
  have hval : ∀ hp0, v6Split hp0 (LBR :: a) c (rest ++ [RBR] ++ COLON :: ds) = ([LBR] ++ t ++ [RBR], some v) := by
    intro hp0
    have hsp := splitAll1_append_last COLON (rest ++ [RBR]) ds hd
    unfold v6Split
    rw [hsp, List.getLast?_concat, List.dropLast_concat]
    simp only [Option.getD_some, hv, join_splitAll1, he]
    simp
  unfold hostPort
  rw [hs]
  simp only [hval, utf8Valid_ascii _ ht.ascii, if_true, wrapV6_of_head_lbr ([LBR] ++ t ++ [RBR]) (by simp)]

theorem parseAuthority_userinfo (u p hp : Bytes) (hu : COLON ∉ u) (hp' : COLON ∉ p) (hua : AT ∉ u) (hpa : AT ∉ p) :
    parseAuthority (u ++ COLON :: p ++ AT :: hp) =
      hostPort (u ++ COLON :: p ++ AT :: hp) (some u) (some p) hp := by
  rw [parseAuthority_eq]
  have hn : AT ∉ u ++ COLON :: p := by
    simp only [List.mem_append, List.mem_cons, not_or]
    exact ⟨hua, by decide, hpa⟩
  rw [splitOnce1_render AT _ hp hn]
  simp only [splitAll1_append_last COLON u p hp', splitAll1_of_not_mem COLON u hu, List.singleton_append]

theorem parseAuthority_no_userinfo (a : Bytes) (h : AT ∉ a) : parseAuthority a = hostPort a none none a := by
  rw [parseAuthority_eq, splitOnce1_of_not_mem AT a h]

theorem parseAuthority_bad_userinfo (ui hp : Bytes) (hat : AT ∉ ui) (hc : ui.count COLON ≠ 1) :
    parseAuthority (ui ++ AT :: hp) = .error .valueError := by
  rw [parseAuthority_eq, splitOnce1_render AT ui hp hat]
  simp only
  split
  · rename_i u p he
    -- two colon-free parts joined by a colon have exactly one
    have hj := join_splitAll1 COLON ui
    have hn := splitAll1_no_sep COLON ui
    rw [he] at hj hn
    apply absurd _ hc
    rw [← hj]
    simp [join, List.count_append, List.count_eq_zero_of_not_mem (hn u (by simp)),
      List.count_eq_zero_of_not_mem (hn p (by simp))]
  · rfl

theorem sep_eq : b "://" = [COLON, SLASH, SLASH] := by decide +kernel
theorem http_eq : b "http" = [104, 116, 116, 112] := by decide +kernel

/-- result of `from_bytes` once scheme and authority text are known -/
def mkUrl (scheme : Option Bytes) (rem : Option Bytes) : Except Err AuthRes → Except Err Url
  | .error e => .error e
  | .ok (u, p, h, port) =>
    .ok { scheme := scheme, username := u, password := p, hostname := some h, port := port, remainder := rem }

theorem mkUrl_ok {scheme rem : Option Bytes} {res : Except Err AuthRes} {u : Url} {h : Bytes}
    (e : mkUrl scheme rem res = .ok u) (hh : u.hostname = some h) :
    res = .ok (u.username, u.password, h, u.port) := by
  unfold mkUrl at e
  split at e
  · simp at e
  · simp only [Except.ok.injEq] at e
    subst e
    simp only [Option.some.injEq] at hh
    rw [hh]

/-- what follows `scheme://`: the authority text up to the first `/`, and the `/…` after it, if any -/
def authRem (rest : Bytes) : Bytes × Option Bytes :=
  match splitOnce1 SLASH rest with
  | none => (rest, none)
  | some (a, p) => (a, some (SLASH :: p))

theorem authRem_spec (rest : Bytes) :
    ∃ post, rest = (authRem rest).1 ++ post ∧ SLASH ∉ (authRem rest).1 ∧ (post = [] ∨ post.head? = some SLASH) := by
  unfold authRem
  cases hs : splitOnce1 SLASH rest with
  | none => exact ⟨[], by simp, (splitOnce1_none_iff SLASH rest).1 hs, .inl rfl⟩
  | some q =>
    obtain ⟨hx, ha⟩ := (splitOnce1_some_iff SLASH rest q.1 q.2).1 hs
    exact ⟨SLASH :: q.2, hx, ha, .inr rfl⟩

theorem authRem_render (a pathq : Bytes) (hs : SLASH ∉ a) (hp : pathq = [] ∨ pathq.head? = some SLASH) :
    authRem (a ++ pathq) = (a, if pathq.isEmpty then none else some pathq) := by
  unfold authRem
  cases pathq with
  | nil => simp [splitOnce1_of_not_mem SLASH a hs]
  | cons c cs =>
    have : c = SLASH := by simpa using hp
    simp [this, splitOnce1_render SLASH a cs hs]

/-! `from_bytes` by the first bytes of its input: `/x…` is an origin-form path, `//…` a network-path
reference read with scheme `http`, anything else is `scheme://…` or a bare authority. -/

theorem fromBytes_origin (allowed : List Bytes) (tl : Bytes) (h : tl.head? ≠ some SLASH) :
    fromBytes allowed (SLASH :: tl) = .ok { remainder := some (SLASH :: tl) } := by
  unfold fromBytes
  cases tl with
  | nil => simp
  | cons c cs =>
    have : c ≠ SLASH := by simpa using h
    simp [this]

theorem fromBytes_dslash (allowed : List Bytes) (r : Bytes) :
    fromBytes allowed (SLASH :: SLASH :: r) =
      mkUrl (some (b "http")) (authRem r).2 (parseAuthority (authRem r).1) := by
  unfold fromBytes authRem mkUrl
  simp only [beq_self_eq_true, Bool.and_self, Bool.not_true, Bool.and_false, Bool.false_eq_true, if_false,
    Option.isSome_none, Bool.or_true, if_true, List.drop_succ_cons, List.drop_zero, Option.getD_some]
  cases splitOnce1 SLASH r <;> rfl

theorem fromBytes_noslash (allowed : List Bytes) (c0 : UInt8) (tl : Bytes) (h : c0 ≠ SLASH) :
    fromBytes allowed (c0 :: tl) =
      match splitOnceSeq (b "://") (c0 :: tl) with
      | some (s, r) =>
        if allowed.contains s then mkUrl (some s) (authRem r).2 (parseAuthority (authRem r).1)
        else .error .httpProtocol
      | none => mkUrl none none (parseAuthority (c0 :: tl)) := by
  have hb : (c0 == SLASH) = false := by simp [h]
  unfold fromBytes authRem mkUrl
  simp only [hb, Bool.false_and, Bool.not_false, Bool.and_true, Bool.false_eq_true, if_false, if_true,
    Bool.or_false]
  cases splitOnceSeq (b "://") (c0 :: tl) with
  | none => rfl
  | some q =>
    dsimp only
    cases allowed.contains q.1
    · rfl
    · simp only [if_true, Option.isSome_some, Option.getD_some]
      cases splitOnce1 SLASH q.2 <;> rfl

theorem fromBytes_authority (allowed : List Bytes) (a : Bytes) (hne : a ≠ []) (hs : SLASH ∉ a) :
    fromBytes allowed a = mkUrl none none (parseAuthority a) := by
  cases a with
  | nil => exact absurd rfl hne
  | cons c0 tl =>
    rw [fromBytes_noslash allowed c0 tl (fun e => hs (by simp [e])),
      splitOnceSeq_none_of_not_mem' _ _ SLASH (by rw [sep_eq]; simp) hs]

theorem fromBytes_absolute (allowed : List Bytes) (scheme a pathq : Bytes)
    (hal : allowed.contains scheme = true) (hsc : COLON ∉ scheme) (hss : SLASH ∉ scheme)
    (hs : SLASH ∉ a) (hp : pathq = [] ∨ pathq.head? = some SLASH) :
    fromBytes allowed (scheme ++ b "://" ++ a ++ pathq) =
      mkUrl (some scheme) (if pathq.isEmpty then none else some pathq) (parseAuthority a) := by
  have hsp : splitOnceSeq (b "://") (scheme ++ b "://" ++ (a ++ pathq)) = some (scheme, a ++ pathq) := by
    rw [sep_eq]; exact splitOnceSeq_render COLON _ scheme (a ++ pathq) hsc
  rw [List.append_assoc (scheme ++ b "://")]
  -- the first byte is the scheme's, or the colon of `://`
  obtain ⟨c0, tl, hraw, hc0⟩ : ∃ c0 tl, scheme ++ b "://" ++ (a ++ pathq) = c0 :: tl ∧ c0 ≠ SLASH := by
    cases scheme with
    | nil => exact ⟨COLON, _, by rw [sep_eq]; rfl, by decide⟩
    | cons d ds => exact ⟨d, _, rfl, fun e => hss (by simp [e])⟩
  rw [hraw] at hsp ⊢
  rw [fromBytes_noslash allowed c0 tl hc0, hsp]
  simp only [hal, if_true, authRem_render a pathq hs hp]

theorem fromBytes_authority_piece (allowed : List Bytes) (x : Bytes) {u : Url} {h : Bytes}
    (e : fromBytes allowed x = .ok u) (hh : u.hostname = some h) :
    ∃ pre a post, x = pre ++ a ++ post ∧
      parseAuthority a = .ok (u.username, u.password, h, u.port) ∧
      ((pre = [] ∧ post = []) ∨
       ((pre = b "//" ∨ ∃ s, pre = s ++ b "://") ∧ SLASH ∉ a ∧ (post = [] ∨ post.head? = some SLASH))) := by
  cases x with
  | nil => simp [fromBytes] at e
  | cons c0 tl =>
    by_cases hc0 : c0 = SLASH
    · subst hc0
      by_cases h1 : tl.head? = some SLASH
      · obtain ⟨r, rfl⟩ := List.head?_eq_some_iff.1 h1
        rw [fromBytes_dslash] at e
        obtain ⟨post, hr, ha, hpost⟩ := authRem_spec r
        exact ⟨b "//", _, post, by rw [List.append_assoc, ← hr, b_ofList]; rfl, mkUrl_ok e hh,
          .inr ⟨.inl rfl, ha, hpost⟩⟩
      · rw [fromBytes_origin allowed tl h1] at e
        simp only [Except.ok.injEq] at e
        subst e; simp at hh
    · rw [fromBytes_noslash allowed c0 tl hc0] at e
      split at e
      · rename_i s r hsp
        split at e
        · obtain ⟨post, hr, ha, hpost⟩ := authRem_spec r
          exact ⟨_, _, post, by rw [List.append_assoc, ← hr, splitOnceSeq_some_eq _ hsp], mkUrl_ok e hh,
            .inr ⟨.inr ⟨s, rfl⟩, ha, hpost⟩⟩
        · simp at e
      · exact ⟨[], c0 :: tl, [], by simp, mkUrl_ok e hh, .inl ⟨rfl, rfl⟩⟩

end Px.UrlL

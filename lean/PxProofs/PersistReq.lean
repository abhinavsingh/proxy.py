import PxProofs.PersistFwd
import PxProofs.PersistPort
import PxProofs.ForwardImpl
/-!
# C04: well-formed requests (`Forward.Req.WF`, C02's specification side) as requests of a stream

For a well-formed absolute-form request `r` the rendering `render r` is exactly
one request for a fresh parser; as first request of a connection it leads to a
connect and to `render (fwdImpl true cfg r)` queued, as follow-up request to
`render (fwdImpl false cfg r)` queued (C02: `parse_render`, `emit_eq`).
-/
namespace Px.Persist
open Px Px.Parser Px.Forward

def connLower : Bytes := [99, 111, 110, 110, 101, 99, 116, 105, 111, 110]     -- "connection"
def upgLower : Bytes := [117, 112, 103, 114, 97, 100, 101]                    -- "upgrade"

/-- not `is_connection_upgrade`, on a `Req` -/
def notUpgrade (r : Req) : Bool :=
  !(r.version == Px.Gen.http11 && r.fields.any (nameIs connLower) && r.fields.any (nameIs upgLower))

theorem absolute_of_isAbsolute {r : Req} (h : r.isAbsolute = true) :
    ∃ host port pq, r.target = .absolute host port pq := by
  cases htg : r.target with
  | absolute h p q => exact ⟨h, p, q, rfl⟩
  | origin q => simp [Req.isAbsolute, htg] at h

theorem oneReq_render (r : Req) (hwf : r.WF) {host : Bytes} {port : Option Bytes} {pq : Bytes}
    (ht : r.target = .absolute host port pq) : ∃ P, oneReq (render r) = some P ∧ Parsed r host pq P := by
  obtain ⟨P, hP, hPd⟩ := parse_render r hwf ht
  refine ⟨P, ?_, hPd⟩
  unfold oneReq
  simp [hP, hPd.state, hPd.buffer]

theorem hasHeader_parsed {r : Req} {host pq : Bytes} {P : Parser} (hP : Parsed r host pq P) (k : Bytes) :
    hasHeader P k = r.fields.any (fun f => lower f.name == lower k) := by
  rw [hasHeader_eq, entries_getD r hP.headers, entries, List.any_map]
  rfl

theorem hasHeader_treatLater {cfg : Forward.Cfg} {P : Parser} {k : Bytes} (h : hasHeader (treatLater cfg P) k = true) :
    hasHeader P k = true := by
  rw [hasHeader_eq, treatLater_eq] at h
  rw [hasHeader_eq]
  obtain ⟨x, hx, hk⟩ := List.any_eq_true.1 (getD_map_keptEntries cfg P.headers ▸ h)
  exact List.any_eq_true.2 ⟨x, (mem_keptEntries hx).1, hk⟩

theorem isUpgrade_later {cfg : Forward.Cfg} {r : Req} {host pq : Bytes} {P : Parser} (hP : Parsed r host pq P)
    (hn : notUpgrade r = true) : isUpgrade (treatLater cfg P) = false := by
  -- were it an upgrade, the version and both header tests would pass on `r` already
  apply Bool.eq_false_iff.2
  intro hu
  simp only [isUpgrade, Bool.and_eq_true, beq_iff_eq] at hu
  obtain ⟨⟨hv, hc⟩, hg⟩ := hu
  have hv' : r.version = Px.Gen.http11 := by
    rw [treatLater_eq] at hv
    exact Option.some.inj (hP.version.symm.trans hv)
  have hc' := hasHeader_treatLater hc
  have hg' := hasHeader_treatLater hg
  rw [hasHeader_parsed hP] at hc' hg'
  have : notUpgrade r = false := by
    simp only [notUpgrade, hv', beq_self_eq_true, Bool.true_and, Bool.not_eq_false', Bool.and_eq_true]
    exact ⟨hc', hg'⟩
  rw [this] at hn; cases hn

theorem firstOk_render (cfg : Forward.Cfg) (hc : CfgOk cfg) (r : Req) (hwf : r.WF) {host : Bytes} {port : Option Bytes}
    {pq : Bytes} (ht : r.target = .absolute host port pq) :
    ∃ P v, FirstOk cfg true (render r) P ⟨Connect.stripBrackets host, v⟩ (render (fwdImpl true cfg r)) := by
  obtain ⟨P, ho, hPd⟩ := oneReq_render r hwf ht
  have hparse := (oneReq_spec ho).1
  have hport : PortOk P := parse_portOk (cfg := pcfg) (by decide) hparse (portOk_init _)
  obtain ⟨v, hpv, hv0⟩ := hport hPd.url hPd.tunnel
  refine ⟨P, v, ho, ?_⟩
  have tf := targetFacts (ht ▸ hwf.2.2.1)
  have hproxy : isProxyRequest P = true := by
    unfold isProxyRequest
    rw [hPd.version, hPd.url, hPd.host]
    rcases hwf.2.2.2.1 with hv | hv <;> simp [hv]
  have hutf : Px.Url.utf8Valid host = true := Px.UrlL.utf8Valid_ascii host tf.hostAscii
  have hemit := emit_eq true cfg hc r hwf ht hPd
  simp only [if_true] at hemit
  have hconn : Connect.connectUpstream P.host P.port = .ok ⟨Connect.stripBrackets host, v⟩ := by
    rw [hPd.host, hpv]
    unfold Connect.connectUpstream
    have : (v == 0) = false := by simpa using hv0
    simp [tf.hostNe, this, hutf]
  unfold firstComplete
  simp only [hproxy, Bool.not_true, Bool.false_eq_true, if_false, hconn, hPd.tunnel, hemit]

theorem laterOk_render (cfg : Forward.Cfg) (hc : CfgOk cfg) (r : Req) (hwf : r.WF) (habs : r.isAbsolute = true)
    (hn : notUpgrade r = true) : ∃ P, LaterOk cfg (render r) P (render (fwdImpl false cfg r)) := by
  obtain ⟨host, port, pq, ht⟩ := absolute_of_isAbsolute habs
  obtain ⟨P, ho, hPd⟩ := oneReq_render r hwf ht
  have hemit := emit_eq false cfg hc r hwf ht hPd
  simp only [Bool.false_eq_true, if_false] at hemit
  exact ⟨P, ho, hemit, isUpgrade_later hPd hn⟩

theorem laterAll_render (cfg : Forward.Cfg) (hc : CfgOk cfg) (l : List Req)
    (h : ∀ r ∈ l, r.WF ∧ r.isAbsolute = true ∧ notUpgrade r = true) :
    ∃ tl : Reqs, tl.map (·.1) = l.map render ∧ LaterAll cfg tl (l.map (fun r => render (fwdImpl false cfg r))) := by
  induction l with
  | nil => exact ⟨[], rfl, .nil⟩
  | cons r l ih =>
    obtain ⟨w, ab, nu⟩ := h r (by simp)
    obtain ⟨P, hP⟩ := laterOk_render cfg hc r w ab nu
    obtain ⟨tl, e, hh⟩ := ih (fun r' hr' => h r' (by simp [hr']))
    exact ⟨(render r, P) :: tl, by simp [e], .cons hP hh⟩

end Px.Persist

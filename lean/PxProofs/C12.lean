import PxProofs.ReverseLemmas
import PxProofs.HeaderKeysInv
import PxProofs.Lit
/-!
# C12 — reverse proxy routes matching requests to a configured upstream

The model (`PxModel/Reverse.lean`, on top of `Url`, `Parser`, `Build`, `Conn`)
is tied to `proxy/http/server/{reverse,web,plugin}.py` and
`proxy/core/base/tcp_upstream.py` by the correspondence check `harness/c12.py`.

`m` is what `re` says about the request path, `pick` the `random.choice` outcomes.

Selection order found in the code (and proved in `C12_selection`): every plugin
is visited in order; inside a plugin the *first* matching route is taken
(`break`); a matching literal route queues its response at once; the URL used
is that of the *last* plugin whose first matching route yields a URL.
-/
namespace Px.Reverse

open Px.Parser (Parser Headers)
open Px.Url (Url utf8Valid)
open Px.Build (rebuildHeaders buildRequest bodyOrChunks)

def PathOk (req : Parser) : Prop := utf8Valid (webPath req) = true

/-- `emit_request_complete()` returns normally: events are off, or the request has a Host field
    and its Host value, path, method and header names/values decode as UTF-8 -/
def EmitOk (events : Bool) (req : Parser) : Prop := emitRequestComplete events req = none

theorem emitOk_of_events_off (req : Parser) : EmitOk false req := by
  simp [EmitOk, emitRequestComplete]

theorem onRequestCompleteEv_eq (cfg : Cfg) (ev : Bool) (m : Nat → Bool) (pick : Nat → Nat) (connectOk : Bool)
    (t : Table) (req : Parser) (s : St) (h : EmitOk ev req) :
    onRequestCompleteEv cfg ev m pick connectOk t req s = onRequestComplete cfg m pick connectOk t req s := by
  unfold onRequestCompleteEv onRequestComplete; rw [h]

theorem onRequestCompleteEv_route {cfg : Cfg} {ev : Bool} {m : Nat → Bool} {pick : Nat → Nat} {connectOk : Bool}
    {t : Table} {req : Parser} {s : St} (hp : PathOk req) (h : EmitOk ev req) :
    onRequestCompleteEv cfg ev m pick connectOk t req s = routeRequest cfg m pick connectOk t req s := by
  unfold onRequestCompleteEv; rw [h, hp]; rfl

/-- **C12 undecodable path ⇒ 400, no upstream.**  Answered with exactly the generated
`BAD_REQUEST_RESPONSE_PKT` and torn down before `emit_request_complete()` and before any routing. -/
theorem C12_bad_path_400 (cfg : Cfg) (ev : Bool) (m : Nat → Bool) (pick : Nat → Nat) (connectOk : Bool)
    (t : Table) (req : Parser) (s : St) (hbad : utf8Valid (webPath req) = false) :
    onRequestCompleteEv cfg ev m pick connectOk t req s =
      ⟨{ s with client := s.client.queue cfg.badRequest }, true, none⟩ ∧
    (onRequestCompleteEv cfg ev m pick connectOk t req s).st.connects = s.connects ∧
    (onRequestCompleteEv cfg ev m pick connectOk t req s).st.upstream = s.upstream ∧
    ({} : Cfg).badRequest = Px.Gen.pkt_BAD_REQUEST_RESPONSE_PKT ∧
    startsWith Px.Gen.pkt_BAD_REQUEST_RESPONSE_PKT (b "HTTP/1.1 400 ") = true := by
  have h : onRequestCompleteEv cfg ev m pick connectOk t req s = badPath cfg s := by
    unfold onRequestCompleteEv; rw [hbad]; rfl
  exact ⟨h, by rw [h]; rfl, by rw [h]; rfl, rfl, by rw [b_ofList]; decide +kernel⟩

/-- **C12 events are a no-op for forwarding** whenever `emit_request_complete()` does not raise: it
publishes a copy and hands the unchanged request on (that the implementation leaves the request
untouched is checked by the correspondence). -/
theorem C12_events_noop (cfg : Cfg) (m : Nat → Bool) (pick : Nat → Nat) (connectOk : Bool) (t : Table)
    (req : Parser) (s : St) (h : EmitOk true req) :
    onRequestCompleteEv cfg true m pick connectOk t req s =
      onRequestCompleteEv cfg false m pick connectOk t req s := by
  rw [onRequestCompleteEv_eq cfg true m pick connectOk t req s h,
      onRequestCompleteEv_eq cfg false m pick connectOk t req s (emitOk_of_events_off req)]

/-- a request as the web server plugin sees it: origin-form target, so `path` is set -/
def WebReq (req : Parser) : Prop := req.path.isSome = true ∧ PathOk req

/-- **C12 no route ⇒ 404**, exactly the generated `NOT_FOUND_RESPONSE_PKT`; teardown, nothing
connected, no upstream. -/
theorem C12_no_route_404 (cfg : Cfg) (ev : Bool) (m : Nat → Bool) (pick : Nat → Nat) (connectOk : Bool) (t : Table)
    (req : Parser) (s : St) (hev : EmitOk ev req) (hp : PathOk req) (hno : anyMatch m t = false) :
    onRequestCompleteEv cfg ev m pick connectOk t req s =
      ⟨{ s with client := s.client.queue cfg.notFound }, true, none⟩ ∧
    (onRequestCompleteEv cfg ev m pick connectOk t req s).st.connects = s.connects ∧
    (onRequestCompleteEv cfg ev m pick connectOk t req s).st.upstream = s.upstream ∧
    ({} : Cfg).notFound = Px.Gen.pkt_NOT_FOUND_RESPONSE_PKT := by
  have h : onRequestCompleteEv cfg ev m pick connectOk t req s = _ := onRequestCompleteEv_route hp hev
  rw [routeRequest, hno, if_neg Bool.false_ne_true] at h
  exact ⟨h, by rw [h], by rw [h], rfl⟩

/-- the generated packet is what the property calls a 404 (the constant is dumped from
    `proxy/http/responses.py` on every run) -/
theorem C12_404_packet :
    startsWith Px.Gen.pkt_NOT_FOUND_RESPONSE_PKT (b "HTTP/1.1 404 ") = true ∧
    (Px.Gen.pkt_NOT_FOUND_RESPONSE_PKT.reverse.take 4).reverse = CRLF ++ CRLF := by
  rw [b_ofList]; decide +kernel

/-- **C12 selection order** when no matching branch raises (`Clean`); the second component is
`needs_upstream`, and `hits` is characterised by `C12_hits_sound`. -/
theorem C12_selection (cfg : Cfg) (m : Nat → Bool) (pick : Nat → Nat) (t : Table) (s : St)
    (hc : Clean cfg pick (hits m 0 t)) :
    routeLoop cfg m pick 0 t s false =
      ({ s with choice := (((hits m 0 t).filterMap (urlOf cfg pick)).getLast?).or s.choice,
                client := { s.client with buffer := s.client.buffer ++ (hits m 0 t).filterMap (litOf cfg pick) } },
       !((hits m 0 t).filterMap (urlOf cfg pick)).isEmpty, none) := by
  rw [routeLoop_clean cfg m pick t 0 s false hc]; simp [afterRoutes]

theorem C12_hits_sound (m : Nat → Bool) (t : Table) (j : Nat) (r : Route) :
    (j, r) ∈ hits m 0 t ↔ ∃ p, t[j]? = some p ∧ p.find? (fun r => m r.pat) = some r := by
  simp only [hits_eq, firstMatch, List.mem_filterMap, Option.map_eq_some_iff, Prod.mk.injEq,
    exists_eq_right_right, Prod.exists, List.mk_mem_zipIdx_iff_getElem?]

/-- the guard under which `request.build()` succeeds -/
def Buildable (req : Parser) (mth ver : Bytes) : Prop :=
  req.method = some mth ∧ mth ≠ [] ∧ req.version = some ver ∧ ver ≠ [] ∧ req.ty = .request

def HostOk (u : Url) (h : Bytes) : Prop := u.hostname = some h ∧ h ≠ [] ∧ utf8Valid h = true

/-- **C12 connect host.**  An IPv6 literal `[addr]` is connected as the bare `addr` (finding D8r);
any hostname not of the form `[…]` is used as is. -/
theorem C12_connect_host :
    (∀ a : Bytes, connectHost ([Px.Url.LBR] ++ a ++ [Px.Url.RBR]) = a) ∧
    (∀ h : Bytes, h.head? ≠ some Px.Url.LBR → connectHost h = h) ∧
    (∀ h : Bytes, h.getLast? ≠ some Px.Url.RBR → connectHost h = h) ∧
    connectHost (b "[::1]") = b "::1" ∧ connectHost (b "up1.test") = b "up1.test" := by
  refine ⟨fun a => ?_, fun h hh => ?_, fun h hh => ?_, ?_, ?_⟩
  · rw [connectHost, if_pos (by rw [List.getLast?_concat]; rfl)]
    exact List.dropLast_concat
  · rw [connectHost, if_neg]; rw [Bool.and_eq_true, beq_iff_eq]; exact fun hb => hh hb.1
  · rw [connectHost, if_neg]; rw [Bool.and_eq_true, beq_iff_eq, beq_iff_eq]; exact fun hb => hh hb.2
  · rw [b_ofList, b_ofList]; decide +kernel
  · rw [b_ofList]; decide +kernel

/-- **C12 later request of a connection without an upstream route.**  The web server's follow-up
loop calls `handle_request` again on the SAME `ReverseProxy` object; `s` is whatever earlier requests
of the kept-alive connection left in it.  A request none of whose hits yields a URL opens no outbound
connection and forwards nothing to the upstream chosen by an earlier request. -/
theorem C12_followup_no_upstream_route (cfg : Cfg) (m : Nat → Bool) (pick : Nat → Nat) (connectOk : Bool)
    (t : Table) (req : Parser) (s : St) (hp : req.path.isSome = true)
    (hc : Clean cfg pick (hits m 0 t))
    (hnone : (hits m 0 t).filterMap (urlOf cfg pick) = []) :
    handleRequest cfg m pick connectOk t req s =
      ⟨{ s with client := { s.client with buffer := s.client.buffer ++ (hits m 0 t).filterMap (litOf cfg pick) } },
       false, none⟩ ∧
    (handleRequest cfg m pick connectOk t req s).st.connects = s.connects ∧
    (handleRequest cfg m pick connectOk t req s).st.upstream = s.upstream ∧
    (handleRequest cfg m pick connectOk t req s).st.choice = s.choice := by
  have h := handleRequest_clean cfg m pick connectOk t req s hp hc
  rw [afterRoutes, hnone] at h
  exact ⟨h, by rw [h]; rfl, by rw [h]; rfl, by rw [h]; rfl⟩

theorem C12_followup_no_route (cfg : Cfg) (m : Nat → Bool) (pick : Nat → Nat) (connectOk : Bool)
    (t : Table) (req : Parser) (s : St) (hp : req.path.isSome = true) (hno : anyMatch m t = false) :
    handleRequest cfg m pick connectOk t req s = ⟨s, false, none⟩ := by
  have hh : hits m 0 t = [] := (hits_eq_nil_iff m 0 t).2 hno
  rw [(C12_followup_no_upstream_route cfg m pick connectOk t req s hp (hh ▸ fun _ h => nomatch h) (by rw [hh]; rfl)).1, hh]
  simp

/-- **C12 later request of a connection with an upstream route.**  It is connected and forwarded
exactly as a first request would be: the upstream an earlier request chose plays no part in it. -/
theorem C12_followup_target (cfg : Cfg) (m : Nat → Bool) (pick : Nat → Nat) (t : Table) (req : Parser) (s : St)
    (u : Url) (h mth ver : Bytes) (hp : req.path.isSome = true)
    (hc : Clean cfg pick (hits m 0 t))
    (hw : ((hits m 0 t).filterMap (urlOf cfg pick)).getLast? = some u)
    (hh : HostOk u h) (hb : Buildable req mth ver) (hn : cfg.bufSize ≠ 0) :
    ∃ body, bodyOrChunks cfg.bufSize req = .ok body ∧
      handleRequest cfg m pick true t req s =
        ⟨{ s with
            choice := some u,
            client := { s.client with buffer := s.client.buffer ++ (hits m 0 t).filterMap (litOf cfg pick) },
            upstream := some ⟨[buildRequest [] mth (fwdPath u) ver none (fwdHeaders cfg req (hostArg cfg u h))
                                 body false true], false⟩,
            connects := s.connects ++ [(connectHost h, portOf cfg u)],
            wraps := if u.scheme == some cfg.httpsProto then s.wraps ++ [h] else s.wraps },
         false, none⟩ := by
  obtain ⟨body, hbody, _⟩ := bodyOrChunks_ok cfg.bufSize hn req
  obtain ⟨hm, hmne, hv, hvne, hty⟩ := hb
  have hpkt := build_shape cfg req u (hostArg cfg u h) mth ver body hm hmne hv hvne hty hbody
  refine ⟨body, hbody, ?_⟩
  rw [handleRequest_clean cfg m pick true t req s hp hc, hw]
  dsimp only
  rw [forward_ok cfg req _ u h _ (by rw [afterRoutes, hw]; rfl) hh.1 hh.2.1 hh.2.2 hpkt, afterRoutes, hw]
  rfl

/-- **C12 target.**  `u` is what the last URL-yielding hit yields, `h` its host.  Exactly one address
is handed to the socket layer (`C12_connect_host`, `C12_default_ports`); TLS is requested (for the
hostname as written) exactly for the `https` scheme; the upstream is queued exactly one packet
(`C12_forwarded_request`) with the client's method and version, the header dict of
`C12_host_rewrite` / `C12_headers_preserved` and the client's (re-chunked if chunked) body. -/
theorem C12_target (cfg : Cfg) (ev : Bool) (m : Nat → Bool) (pick : Nat → Nat) (t : Table) (req : Parser) (s : St)
    (u : Url) (h mth ver : Bytes)
    (hev : EmitOk ev req) (hweb : WebReq req) (hany : anyMatch m t = true)
    (hc : Clean cfg pick (hits m 0 t))
    (hw : ((hits m 0 t).filterMap (urlOf cfg pick)).getLast? = some u)
    (hh : HostOk u h) (hb : Buildable req mth ver) (hn : cfg.bufSize ≠ 0) :
    ∃ body, bodyOrChunks cfg.bufSize req = .ok body ∧
      (req.isChunked = false → body = req.body) ∧
      onRequestCompleteEv cfg ev m pick true t req s =
        ⟨{ s with
            choice := some u,
            client := { s.client with buffer := s.client.buffer ++ (hits m 0 t).filterMap (litOf cfg pick) },
            upstream := some ⟨[buildRequest [] mth (fwdPath u) ver none (fwdHeaders cfg req (hostArg cfg u h))
                                 body false true], false⟩,
            connects := s.connects ++ [(connectHost h, portOf cfg u)],
            wraps := if u.scheme == some cfg.httpsProto then s.wraps ++ [h] else s.wraps },
         false, none⟩ := by
  obtain ⟨body, hbody, h⟩ := C12_followup_target cfg m pick t req s u h mth ver hweb.1 hc hw hh hb hn
  obtain ⟨body', hbody', hb1⟩ := bodyOrChunks_ok cfg.bufSize hn req
  obtain rfl : body' = body := Except.ok.inj (hbody'.symm.trans hbody)
  refine ⟨body', hbody, hb1, ?_⟩
  rw [onRequestCompleteEv_route hweb.2 hev, routeRequest, if_pos hany]
  exact h

/-- **C12 target, static route.**  The URL used is `Url.from_bytes` of `urls[pick j]`, of a route of
the table whose pattern matches the request path. -/
theorem C12_target_static (cfg : Cfg) (m : Nat → Bool) (pick : Nat → Nat) (t : Table) (j pat : Nat)
    (urls : List Bytes) (u : Url)
    (hmem : (j, Route.static pat urls) ∈ hits m 0 t)
    (hu : urlOf cfg pick (j, Route.static pat urls) = some u) :
    ∃ raw p, urls[pick j]? = some raw ∧ raw ∈ urls ∧
      Px.Url.fromBytes cfg.allowedSchemes raw = .ok u ∧
      t[j]? = some p ∧ Route.static pat urls ∈ p ∧ m pat = true := by
  obtain ⟨p, hp, hfind⟩ := (C12_hits_sound m t j _).1 hmem
  obtain ⟨raw, hraw, hf⟩ := routeAct_static_url.1 (urlOf_eq_some.1 hu)
  exact ⟨raw, p, hraw, List.mem_of_getElem? hraw, hf, hp, List.mem_of_find?_eq_some hfind,
    List.find?_some (p := fun r : Route => m r.pat) hfind⟩

/-- **C12 port defaulting** with the constants of the code (`{}`); 443 is the default of every scheme
other than `http`. -/
theorem C12_default_ports (u : Url) :
    (∀ v, u.port = some v → v ≠ 0 → portOf {} u = v) ∧
    ((u.port = none ∨ u.port = some 0) → u.scheme = some (b "http") → portOf {} u = 80) ∧
    ((u.port = none ∨ u.port = some 0) → u.scheme = some (b "https") → portOf {} u = 443) := by
  have dflt : (u.port = none ∨ u.port = some 0) →
      portOf {} u = if u.scheme == some Px.Gen.httpProto then 80 else 443 := by
    rintro (hp | hp) <;> rw [portOf, hp] <;> rfl
  refine ⟨fun v hv hne => ?_, fun hp hs => ?_, fun hp hs => ?_⟩
  · rw [portOf, hv]; exact if_pos (by simpa using hne)
  · rw [dflt hp, hs, b_ofList]; decide +kernel
  · rw [dflt hp, hs, b_ofList]; decide +kernel

/-- what `build_http_request` does to the header dict it is handed (`no_ua=True`): `Content-Length`
    is updated in place if a field of exactly that spelling exists, appended otherwise. -/
def withContentLength (hdrs : Px.Build.HDict) (body : Option Bytes) : Px.Build.HDict :=
  if (match body with | some x => !x.isEmpty | none => false) &&
      !hdrs.any (fun e => lower e.1 == b "transfer-encoding")
  then Px.Build.dSet hdrs (b "Content-Length") (natToDec (body.getD []).length) else hdrs

/-- **C12 forwarded request.**  `path` is the upstream URL's (`C12_forwarded_path`), `hdrs` the dict
of `C12_host_rewrite` / `C12_headers_preserved`. -/
theorem C12_forwarded_request (mth path ver : Bytes) (hdrs : Px.Build.HDict) (body : Option Bytes) :
    buildRequest [] mth path ver none hdrs body false true =
      mth ++ [SP] ++ path ++ [SP] ++ ver ++ CRLF ++
        ((withContentLength hdrs body).map (fun kv => kv.1 ++ [COLON] ++ [SP] ++ kv.2 ++ CRLF)).flatten ++
        CRLF ++ body.getD [] := by
  -- `no_ua=True`: the User-Agent branch is dead, so the dict written is `withContentLength hdrs body`
  have h : buildRequest [] mth path ver none hdrs body false true =
      Px.Build.buildPkt [mth, path, ver] (withContentLength hdrs body) body false := by
    unfold buildRequest
    simp only [Bool.not_true, Bool.and_false, Bool.false_eq_true, if_false]
    rfl
  have hj : join [SP] [mth, path, ver] = mth ++ [SP] ++ path ++ [SP] ++ ver := by
    simp only [join, List.append_assoc]
  -- (the dead `conn_close` branch is removed before `rfl`: left in, the kernel compares its
  -- `b "Connection"` with `b "Content-Length"` by evaluating both)
  rw [h]; unfold Px.Build.buildPkt; rw [hj, if_neg Bool.false_ne_true]
  cases body <;> rfl

theorem C12_forwarded_path (u : Url) :
    (u.remainder = none → fwdPath u = b "/") ∧
    (∀ x, u.remainder = some x → x ≠ [] → fwdPath u = x) := by
  refine ⟨fun h => ?_, fun x h hne => ?_⟩
  · rw [fwdPath, h, b_ofList]; rfl
  · rw [fwdPath, h]; exact if_neg (by simpa using hne)

/-- **C12 Host rewrite.**  With `--rewrite-host-header` the value of every field named `Host` (any
case) is replaced by `hostname[:port]` of the upstream URL, names, order and all other values
untouched; without the option `host=None` is passed. -/
theorem C12_host_rewrite (cfg : Cfg) (req : Parser) (u : Url) (h : Bytes) :
    (cfg.rewriteHost = true →
      fwdHeaders cfg req (hostArg cfg u h) = (fwdHeaders cfg req none).map (setHost (authority u h))) ∧
    (cfg.rewriteHost = false → fwdHeaders cfg req (hostArg cfg u h) = fwdHeaders cfg req none) := by
  refine ⟨fun hr => ?_, fun hr => by rw [hostArg, hr]; rfl⟩
  rw [hostArg, hr, if_pos rfl]
  cases hh : req.headers with
  | none => unfold fwdHeaders; rw [hh]; rfl
  | some hs => rw [fwdHeaders_some hh, fwdHeaders_some hh, rebuildHeaders_host]

/-- the original-case field names of the parsed request are pairwise distinct
    (what `add_header`, keyed on the lower-cased name, maintains) -/
def HdrNamesDistinct (req : Parser) : Prop :=
  ∀ hs, req.headers = some hs → (hs.map (fun e => e.2.1)).Nodup

/-- so `HdrNamesDistinct` is not an extra assumption on real inputs (`HttpParser.parse` fed any pieces) -/
theorem C12_parsed_names_distinct (pcfg : Px.Parser.Cfg) (segs : List Bytes) (req : Parser)
    (h : Px.Parser.parseAll pcfg (Px.Parser.init .request) segs = .ok req) : HdrNamesDistinct req := by
  intro hs hh
  -- the parser keys its map on the lower-cased name: distinct keys, distinct names
  obtain ⟨hnd, hkey⟩ := Px.Codec.parseAll_keysInv pcfg .request segs h hs hh
  exact Px.Codec.nodup_names_of_keys hnd hkey

/-- **C12 headers preserved.**  Without Host rewriting: the client's fields, original-case name and
value, in the order received, minus the names listed in `--disable-headers` (none by default). -/
theorem C12_headers_preserved (cfg : Cfg) (req : Parser) (hs : Headers) (hh : req.headers = some hs)
    (hd : HdrNamesDistinct req) :
    fwdHeaders cfg req none =
      (hs.filter (fun e => !cfg.disableHeaders.contains (lower e.1))).map (fun e => e.2) ∧
    (({} : Cfg).disableHeaders = [] → fwdHeaders {} req none = hs.map (fun e => e.2)) := by
  have key (cfg : Cfg) : fwdHeaders cfg req none =
      (hs.filter (fun e => !cfg.disableHeaders.contains (lower e.1))).map (fun e => e.2) := by
    rw [fwdHeaders_some hh, Px.Codec.rebuildHeaders_none hs _ (hd hs hh)]
  refine ⟨key cfg, fun h0 => ?_⟩
  rw [key {}, h0]; exact congrArg (List.map _) (List.filter_eq_self.2 fun _ _ => rfl)

/-- against `DEFAULT_DISABLE_HEADERS` -/
theorem C12_default_disable : ({} : Cfg).disableHeaders = [] := by decide

/-- **C12 relay.**  For every sequence of `recv` outcomes on the upstream socket the client is queued
the segments received before the first end-of-stream / reset / timeout, unmodified, each as its own
buffer element; teardown is requested iff such an event occurred. -/
theorem C12_relay (evs : List UpEv) (s : St) (c : Conn) (hu : s.upstream = some c) :
    relay evs s =
      ({ s with client := { s.client with buffer := s.client.buffer ++ delivered evs } },
       evs.any UpEv.terminal) := by
  induction evs generalizing s with
  | nil =>
    cases s with | mk client choice upstream connects wraps closes =>
    cases client; simp [relay, delivered]
  | cons e es ih =>
    cases s with | mk client choice upstream connects wraps closes =>
    cases client with | mk buffer closed =>
    simp only at hu
    subst hu
    cases e with
    | seg raw =>
      cases hr : raw.isEmpty
      · simp only [relay, upstreamRead, hr, Bool.false_eq_true, if_false, handleUpstreamData, Conn.queue]
        rw [ih _ rfl]
        simp [delivered, UpEv.terminal, hr]
      · simp [relay, upstreamRead, delivered, UpEv.terminal, hr]
    | eof | reset | timedOut => simp [relay, upstreamRead, delivered, UpEv.terminal]
    | wantRead =>
      simp only [relay, upstreamRead]
      rw [ih _ rfl]
      simp [delivered, UpEv.terminal]

theorem C12_relay_segments (segs : List Bytes) (hne : ∀ x ∈ segs, x ≠ []) (s : St) (c : Conn)
    (hu : s.upstream = some c) :
    relay (segs.map .seg) s =
      ({ s with client := { s.client with buffer := s.client.buffer ++ segs } }, false) := by
  rw [C12_relay _ s c hu, (delivered_segs segs hne).1, (delivered_segs segs hne).2]

theorem C12_relay_stops (pre post : List UpEv) (e : UpEv) (he : e.terminal = true) :
    delivered (pre ++ e :: post) = delivered (pre ++ [e]) := by
  induction pre with
  | nil => simp [delivered, he]
  | cons x xs ih => simp only [List.cons_append, delivered, ih]

/-- **C12 dynamic route returning a literal response.**  No hit yields a URL: all matching first
routes are dynamic routes answering with a literal response.  Nothing is connected and the
connection stays up. -/
theorem C12_dynamic_literal (cfg : Cfg) (ev : Bool) (m : Nat → Bool) (pick : Nat → Nat) (connectOk : Bool) (t : Table)
    (req : Parser) (s : St) (hev : EmitOk ev req) (hweb : WebReq req) (hany : anyMatch m t = true)
    (hc : Clean cfg pick (hits m 0 t))
    (hnone : (hits m 0 t).filterMap (urlOf cfg pick) = []) :
    onRequestCompleteEv cfg ev m pick connectOk t req s =
      ⟨{ s with client := { s.client with buffer := s.client.buffer ++ (hits m 0 t).filterMap (litOf cfg pick) } },
       false, none⟩ ∧
    (hits m 0 t).filterMap (litOf cfg pick) ≠ [] := by
  constructor
  · rw [onRequestCompleteEv_route hweb.2 hev, routeRequest, if_pos hany]
    exact (C12_followup_no_upstream_route cfg m pick connectOk t req s hweb.1 hc hnone).1
  · -- some plugin has a hit; it does not raise and yields no URL, so it yields a literal
    intro hl
    obtain ⟨ir, hir⟩ := List.exists_mem_of_ne_nil _ (mt (hits_eq_nil_iff m 0 t).1 (by simp [hany]))
    have hu := List.filterMap_eq_nil_iff.1 hnone ir hir
    have hli := List.filterMap_eq_nil_iff.1 hl ir hir
    cases ha : routeAct cfg (pick ir.1) ir.2 with
    | fail e c => exact hc ir hir e c ha
    | url v => rw [urlOf, ha] at hu; cases hu
    | lit x => rw [litOf, ha] at hli; cases hli

/-- **C12 dynamic route returning a `Url`** acts exactly like a static route
whose chosen URL parses to that `Url`: the loop sees the same action, hence
(`C12_target`) the same connect address, forwarded request and relay. -/
theorem C12_dynamic_url (cfg : Cfg) (k pat pat' : Nat) (raw : Bytes) (u : Url)
    (hf : Px.Url.fromBytes cfg.allowedSchemes raw = .ok u) (hs : strOk u = true) :
    routeAct cfg k (.dynamic pat (.url u)) = .url u ∧
    routeAct cfg 0 (.static pat' [raw]) = routeAct cfg k (.dynamic pat (.url u)) := by
  simp [routeAct, hf, hs]

/-- a connection refused by the upstream: `HttpProtocolException` after that one connect attempt -/
theorem C12_refused (cfg : Cfg) (req : Parser) (s : St) (u : Url) (h : Bytes)
    (hc : s.choice = some u) (hh : HostOk u h) :
    (forward cfg false req s).exc = some .httpProtocol ∧ (forward cfg false req s).teardown = true ∧
    (forward cfg false req s).st.connects = s.connects ++ [(connectHost h, portOf cfg u)] ∧
    (forward cfg false req s).st.upstream = some ⟨[], true⟩ := by
  rw [forward_refused cfg req s u h hc hh.1 hh.2.1 hh.2.2]; simp

/-- **C12 close.**  An open upstream is closed exactly once and forgotten; a second call does nothing. -/
theorem C12_close (s : St) (c : Conn) (hu : s.upstream = some c) (ho : c.closed = false) :
    (onClientConnectionClose s).closes = s.closes + 1 ∧ (onClientConnectionClose s).upstream = none ∧
    onClientConnectionClose (onClientConnectionClose s) = onClientConnectionClose s := by
  simp [onClientConnectionClose, hu, ho]

/-- **C12 connections are independent.**  What a connection gets is what its own request yields on a
fresh handler, whichever connections the process served before or serves afterwards.  (The
correspondence runs sequences of connections in one process against this.) -/
theorem C12_connections_independent (cfg : Cfg) (ev : Bool) (t : Table) (pre post : List ConnIn) (c : ConnIn) :
    runConnections cfg ev t (pre ++ c :: post) =
      runConnections cfg ev t pre ++
        onRequestCompleteEv cfg ev c.m c.pick c.connectOk t c.req {} :: runConnections cfg ev t post ∧
    (runConnections cfg ev t (pre ++ c :: post))[pre.length]? =
      some (onRequestCompleteEv cfg ev c.m c.pick c.connectOk t c.req {}) := by
  -- every connection starts from the fresh state `{}`: the run is a `map`
  have h1 (l : List ConnIn) : runConnections cfg ev t l =
      l.map (fun c => onRequestCompleteEv cfg ev c.m c.pick c.connectOk t c.req {}) := by
    induction l with
    | nil => rfl
    | cons x xs ih => rw [runConnections, ih, List.map_cons]
  constructor
  · rw [h1, h1, h1, List.map_append, List.map_cons]
  · rw [h1, List.getElem?_map, List.getElem?_append_right (Nat.le_refl _), Nat.sub_self]; rfl

/-- non-vacuity: `GET /get HTTP/1.1` with two header fields, as the parser leaves it -/
def exReq : Parser :=
  { ty := .request, state := .complete, path := some (b "/get"), method := some (b "GET"),
    version := some (b "HTTP/1.1"),
    headers := some [(b "host", (b "Host", b "front.example")), (b "x-a", (b "X-A", b "1"))] }

/-- the example plugin of the repository -/
def exTable : Table :=
  [[.static 0 [b "http://httpbingo.org/get", b "https://httpbingo.org:8443"],
    .dynamic 1 (.literal (b "HTTP/1.1 204 No Content\r\n\r\n"))]]

def exUrl : Url :=
  { scheme := some (b "https"), hostname := some (b "httpbingo.org"), port := some 8443 }

theorem exAct :
    routeAct {} 1 (.static 0 [b "http://httpbingo.org/get", b "https://httpbingo.org:8443"]) = .url exUrl := by
  unfold exUrl; repeat rw [b_ofList]
  decide +kernel

example : WebReq exReq := by
  refine ⟨rfl, ?_⟩; unfold PathOk; decide +kernel
example : Buildable exReq (b "GET") (b "HTTP/1.1") := by
  refine ⟨rfl, ?_, rfl, ?_, rfl⟩ <;> decide +kernel
example : HdrNamesDistinct exReq := by
  intro hs h; cases h; decide +kernel
-- `rfl`, not `decide`: the `b "…"` literals are compared as they stand, never evaluated
example : hits (fun i => i == 0) 0 exTable = [(0, .static 0 [b "http://httpbingo.org/get", b "https://httpbingo.org:8443"])] :=
  rfl
example : Clean {} (fun _ => 1) (hits (fun i => i == 0) 0 exTable) := by
  intro ir hir e c
  obtain rfl := List.mem_singleton.1 hir
  rw [exAct]; nofun
example : ((hits (fun i => i == 0) 0 exTable).filterMap (urlOf {} (fun _ => 1))).getLast? = some exUrl := by
  rw [show hits (fun i => i == 0) 0 exTable = [_] from rfl, List.filterMap_cons, urlOf_eq_some.2 exAct]; rfl
example : strOk exUrl = true := by rw [exUrl, b_ofList, b_ofList]; decide +kernel
example : HostOk exUrl (b "httpbingo.org") := by
  refine ⟨rfl, ?_, ?_⟩ <;> rw [b_ofList] <;> decide +kernel
example : portOf {} exUrl = 8443 ∧ hostArg { rewriteHost := true } exUrl (b "httpbingo.org") = some (b "httpbingo.org:8443") := by
  refine ⟨by decide +kernel, ?_⟩; rw [b_ofList, b_ofList]; decide +kernel
example : anyMatch (fun i => i == 0) exTable = true ∧ anyMatch (fun _ => false) exTable = false := by
  decide +kernel
example : PathOk exReq := by unfold PathOk; decide +kernel
example : utf8Valid (webPath { exReq with path := some [47, 255] }) = false := by decide +kernel
example : emitRequestComplete true { exReq with port := some 80 } = none := by
  unfold exReq; repeat rw [b_ofList]
  decide +kernel
example : emitRequestComplete true { exReq with port := some 80, headers := none } = some .keyError := by
  decide +kernel
/-- the literal-only situation of `C12_dynamic_literal` -/
example : (hits (fun i => i == 1) 0 exTable).filterMap (urlOf {} (fun _ => 0)) = [] ∧
    (hits (fun i => i == 1) 0 exTable).filterMap (litOf {} (fun _ => 0)) = [b "HTTP/1.1 204 No Content\r\n\r\n"] :=
  ⟨rfl, rfl⟩
example :
    (onRequestCompleteEv { rewriteHost := true } false (fun i => i == 0) (fun _ => 1) true exTable exReq {}).st.connects
      = [(b "httpbingo.org", 8443)] ∧
    (onRequestCompleteEv { rewriteHost := true } false (fun i => i == 0) (fun _ => 1) true exTable exReq {}).st.upstream
      = some ⟨[b "GET / HTTP/1.1\r\nHost: httpbingo.org:8443\r\nX-A: 1\r\n\r\n"], false⟩ ∧
    (onRequestCompleteEv { rewriteHost := true } false (fun i => i == 0) (fun _ => 1) true exTable exReq {}).st.wraps
      = [b "httpbingo.org"] := by
  unfold exTable exReq; repeat rw [b_ofList]
  decide +kernel

/-- non-vacuity of the follow-up theorem: an object that already routed a request to `exUrl` -/
example : (handleRequest {} (fun _ => false) (fun _ => 0) true exTable exReq
    { choice := some exUrl, connects := [(b "up.test", 80)] }).st.connects = [(b "up.test", 80)] := by
  rw [C12_followup_no_route {} (fun _ => false) (fun _ => 0) true exTable exReq _ (by decide) (by decide)]

end Px.Reverse

import PxModel.Bytes
/-!
# String literals as byte lists

`b "…"` is `String.toUTF8.toList`, and `ByteArray.toList` is a well-founded loop: the kernel
unfolds it at a price per byte, every time the literal is used.  `b_ofList` rewrites a literal
once into the structural `List.flatMap` over its characters; proofs that evaluate a model
function on literals (`decide +kernel`) rewrite with it first.  `rw [b_ofList]` unifies a
string literal with `String.ofList ?cs`; `simp only` does not.
-/
namespace Px

theorem byteArray_toList_loop_eq (bs : ByteArray) (i : Nat) (r : List UInt8) :
    ByteArray.toList.loop bs i r = r.reverse ++ bs.data.toList.drop i := by
  fun_induction ByteArray.toList.loop bs i r with
  | case1 i r h ih =>
    have hi : i < bs.data.toList.length := by rw [Array.length_toList]; exact h
    rw [ih, List.reverse_cons, List.append_assoc, List.singleton_append, List.drop_eq_getElem_cons hi,
      Array.getElem_toList]
    exact congrArg (fun x => r.reverse ++ x :: _) (getElem!_pos bs.data i _)
  | case2 i r h =>
    rw [List.drop_eq_nil_of_le (by rw [Array.length_toList]; exact Nat.le_of_not_lt h), List.append_nil]

theorem byteArray_toList_eq (bs : ByteArray) : bs.toList = bs.data.toList := by
  simp [ByteArray.toList, byteArray_toList_loop_eq]

theorem b_ofList (cs : List Char) : b (String.ofList cs) = cs.flatMap String.utf8EncodeChar := by
  rw [b, String.toUTF8, byteArray_toList_eq, String.toByteArray_ofList, List.utf8Encode, List.data_toByteArray]

end Px

import PxModel.Listen
/-!
What `bindAll` returns, the shape of the pool `ListenerPool.setup` builds and
what `Proxy.setup` reads back from it.  `resolve`, `tcpOf`, `pre` and
`reportedAdditional` are also the words the C19 statements say that shape in.
-/
namespace Px.Listen

/-- the addresses `bindAll` binds when it succeeds: zeros replaced by the kernel's choice -/
def resolve (a : Nat → Nat) : Nat → List (Host × Nat) → List (Host × Nat)
  | _, [] => []
  | i, (h, p) :: rest => (h, if p = 0 then a i else p) :: resolve a (i + 1) rest

/-- One `bind`; the inductions about success go through this. -/
theorem bindAll_cons_ok {a : Nat → Nat} {i : Nat} {b rest r : List (Host × Nat)} {h : Host} {p : Nat} :
    bindAll a i b ((h, p) :: rest) = .ok r ↔
      (p ≠ 0 → (h, p) ∉ b) ∧
      ∃ r', bindAll a (i + 1) ((h, if p = 0 then a i else p) :: b) rest = .ok r' ∧
        r = (h, if p = 0 then a i else p) :: r' := by
  rw [bindAll]
  by_cases hp : p = 0
  · simp only [hp, if_true]
    cases bindAll a (i + 1) ((h, a i) :: b) rest <;> simp [eq_comm]
  · by_cases hb : (h, p) ∈ b
    · simp [hp, hb]
    · simp only [hp, hb, if_false]
      cases bindAll a (i + 1) ((h, p) :: b) rest <;> simp [eq_comm]

theorem kernelFresh_cons {a : Nat → Nat} {i : Nat} {b rest : List (Host × Nat)} {h : Host} {p : Nat} :
    kernelFresh a i b ((h, p) :: rest) = true ↔
      (p = 0 → a i ≠ 0 ∧ (h, a i) ∉ b) ∧
      kernelFresh a (i + 1) ((h, if p = 0 then a i else p) :: b) rest = true := by
  rw [kernelFresh]
  by_cases hp : p = 0 <;> simp [hp, and_assoc]

theorem bindAll_total (a : Nat → Nat) (i : Nat) (b pl : List (Host × Nat)) :
    bindAll a i b pl = .ok (resolve a i pl) ∨ bindAll a i b pl = .error .addrInUse := by
  induction pl generalizing i b with
  | nil => exact .inl rfl
  | cons x rest ih =>
    obtain ⟨h, p⟩ := x
    rw [bindAll, resolve]
    by_cases hp : p = 0
    · rcases ih (i + 1) ((h, a i) :: b) with e | e <;> simp [hp, e]
    · by_cases hb : (h, p) ∈ b
      · simp [hp, hb]
      · rcases ih (i + 1) ((h, p) :: b) with e | e <;> simp [hp, hb, e]

theorem bindAll_error (a : Nat → Nat) (i : Nat) (b pl : List (Host × Nat)) (e : Err)
    (h : bindAll a i b pl = .error e) : e = .addrInUse := by
  rcases bindAll_total a i b pl with h' | h' <;> rw [h'] at h <;> cases h
  rfl

theorem bindAll_ok_nodup (a : Nat → Nat) (i : Nat) (b pl r : List (Host × Nat))
    (h : bindAll a i b pl = .ok r) (hk : kernelFresh a i b pl = true) :
    (∀ x ∈ r, x ∉ b) ∧ r.Nodup ∧ ∀ x ∈ r, x.2 ≠ 0 := by
  induction pl generalizing i b r with
  | nil => cases h; simp
  | cons x rest ih =>
    obtain ⟨hh, p⟩ := x
    obtain ⟨hfix, r', hr', rfl⟩ := bindAll_cons_ok.1 h
    obtain ⟨hzero, hk'⟩ := kernelFresh_cons.1 hk
    obtain ⟨h1, h2, h3⟩ := ih _ _ _ hr' hk'
    have hq : (hh, if p = 0 then a i else p) ∉ b ∧ (if p = 0 then a i else p) ≠ 0 := by
      by_cases hp : p = 0
      · simp only [hp, if_true]; exact ⟨(hzero hp).2, (hzero hp).1⟩
      · simp only [hp, if_false]; exact ⟨hfix hp, hp⟩
    exact ⟨List.forall_mem_cons.2 ⟨hq.1, fun x hx hb => h1 x hx (List.mem_cons_of_mem _ hb)⟩,
      List.nodup_cons.2 ⟨fun hm => h1 _ hm List.mem_cons_self, h2⟩,
      List.forall_mem_cons.2 ⟨hq.2, h3⟩⟩

theorem bindAll_ok_fixed (a : Nat → Nat) (i : Nat) (b pl r : List (Host × Nat))
    (h : bindAll a i b pl = .ok r) :
    (pl.filter (fun x => x.2 ≠ 0)).Nodup ∧ ∀ x ∈ pl, x.2 ≠ 0 → x ∉ b := by
  induction pl generalizing i b r with
  | nil => simp
  | cons x rest ih =>
    obtain ⟨hh, p⟩ := x
    obtain ⟨hfix, r', hr', rfl⟩ := bindAll_cons_ok.1 h
    obtain ⟨h1, h2⟩ := ih _ _ _ hr'
    refine ⟨?_, List.forall_mem_cons.2 ⟨hfix, fun x hx hx0 hb => h2 x hx hx0 (List.mem_cons_of_mem _ hb)⟩⟩
    by_cases hp : p = 0
    · simpa [List.filter_cons, hp] using h1
    · simp only [List.filter_cons, hp, ne_eq, not_false_eq_true, decide_true, if_true]
      -- a later fixed request equal to this one would have found it bound
      refine List.nodup_cons.2 ⟨fun hm => ?_, h1⟩
      have := List.mem_filter.1 hm
      exact h2 _ this.1 (by simpa using this.2) (by simp [hp])

theorem bindAll_succeeds (a : Nat → Nat) (i : Nat) (b pl : List (Host × Nat))
    (hnd : (pl.filter (fun x => x.2 ≠ 0)).Nodup)
    (hb : ∀ x ∈ pl, x.2 ≠ 0 → x ∉ b)
    (hav : ∀ j, ∀ x ∈ pl, x.2 ≠ 0 → a j ≠ x.2) :
    ∃ r, bindAll a i b pl = .ok r := by
  induction pl generalizing i b with
  | nil => exact ⟨[], rfl⟩
  | cons x rest ih =>
    obtain ⟨hh, p⟩ := x
    obtain ⟨hbx, hb⟩ := List.forall_mem_cons.1 hb
    -- the fixed requests still to come differ from the address bound now:
    -- from one the kernel chose by `hav`, from a fixed one by `hnd`
    have hnew : ∀ x ∈ rest, x.2 ≠ 0 → x ≠ (hh, if p = 0 then a i else p) := by
      intro x hx hx0 he
      by_cases hp : p = 0
      · exact hav i x (List.mem_cons_of_mem _ hx) hx0 (by simp [he, hp])
      · rw [List.filter_cons, if_pos (by simpa using hp)] at hnd
        exact (List.nodup_cons.1 hnd).1 (List.mem_filter.2 ⟨by simpa [he, hp] using hx, by simpa using hp⟩)
    obtain ⟨r, hr⟩ := ih (i + 1) ((hh, if p = 0 then a i else p) :: b)
      (hnd.sublist ((List.sublist_cons_self _ rest).filter _))
      (fun x hx hx0 hm => (List.mem_cons.1 hm).elim (hnew x hx hx0) (hb x hx hx0))
      (fun j => (List.forall_mem_cons.1 (hav j)).2)
    exact ⟨_, bindAll_cons_ok.2 ⟨hbx, r, hr, rfl⟩⟩

theorem resolve_append (a : Nat → Nat) (i : Nat) (x y : List (Host × Nat)) :
    resolve a i (x ++ y) = resolve a i x ++ resolve a (i + x.length) y := by
  induction x generalizing i with
  | nil => simp [resolve]
  | cons z x ih =>
    obtain ⟨h, p⟩ := z
    simp [resolve, ih, Nat.add_assoc, Nat.add_comm 1]

theorem resolve_map_pair (a : Nat → Nat) (i : Nat) (h : Host) (ps : List Nat) :
    resolve a i (ps.map (fun p => (h, p))) = (resolvePorts a i ps).map (fun p => (h, p)) := by
  induction ps generalizing i with
  | nil => simp [resolve, resolvePorts]
  | cons p ps ih => simp [resolve, resolvePorts, ih]

theorem resolve_fixed (a : Nat → Nat) (i : Nat) (pl : List (Host × Nat))
    (h : ∀ x ∈ pl, x.2 ≠ 0) : resolve a i pl = pl := by
  induction pl generalizing i with
  | nil => simp [resolve]
  | cons z pl ih =>
    obtain ⟨hh, p⟩ := z
    have hp : p ≠ 0 := h (hh, p) List.mem_cons_self
    simp [resolve, hp, ih (i + 1) (fun x hx => h x (List.mem_cons_of_mem _ hx))]

theorem resolvePorts_fixed (a : Nat → Nat) (i : Nat) (ps : List Nat) (h : 0 ∉ ps) :
    resolvePorts a i ps = ps := by
  induction ps generalizing i with
  | nil => simp [resolvePorts]
  | cons p ps ih =>
    have hp : p ≠ 0 := fun h0 => h (by simp [h0])
    simp [resolvePorts, hp, ih (i + 1) (fun hm => h (List.mem_cons_of_mem _ hm))]

theorem resolvePorts_length (a : Nat → Nat) (i : Nat) (ps : List Nat) :
    (resolvePorts a i ps).length = ps.length := by
  induction ps generalizing i with
  | nil => simp [resolvePorts]
  | cons p ps ih => simp [resolvePorts, ih]

theorem resolve_length (a : Nat → Nat) (i : Nat) (pl : List (Host × Nat)) :
    (resolve a i pl).length = pl.length := by
  induction pl generalizing i with
  | nil => simp [resolve]
  | cons z pl ih => obtain ⟨h, p⟩ := z; simp [resolve, ih]

theorem nodup_map_pair (h : Host) (l : List Nat) :
    (l.map (fun p => (h, p))).Nodup ↔ l.Nodup := by
  simp [List.Nodup, List.pairwise_map]

theorem plan_cons (c : Config) (h : Host) (hs : List Host) :
    plan c (h :: hs) = (tcpPorts c).map (fun p => (h, p)) ++ plan c hs := by
  simp [plan]

theorem mem_plan (c : Config) (hs : List Host) (x : Host × Nat) :
    x ∈ plan c hs ↔ x.1 ∈ hs ∧ x.2 ∈ tcpPorts c := by
  obtain ⟨h, p⟩ := x
  simp [plan]

theorem plan_ne_zero (c : Config) (hs : List Host) (hz : 0 ∉ tcpPorts c) : ∀ x ∈ plan c hs, x.2 ≠ 0 :=
  fun x hx h0 => hz (h0 ▸ ((mem_plan c hs x).1 hx).2)

theorem plan_length (c : Config) (hs : List Host) :
    (plan c hs).length = hs.length * (tcpPorts c).length := by
  induction hs with
  | nil => simp [plan]
  | cons h hs ih => rw [plan_cons, List.length_append, ih]; simp [Nat.succ_mul, Nat.add_comm]

theorem plan_fixed_nodup (c : Config) (hs : List Host) (hhs : hs.Nodup)
    (hp : ((tcpPorts c).filter (· ≠ 0)).Nodup) :
    ((plan c hs).filter (fun x => x.2 ≠ 0)).Nodup := by
  induction hs with
  | nil => simp [plan]
  | cons h hs ih =>
    obtain ⟨hnot, hhs'⟩ := List.nodup_cons.1 hhs
    rw [plan_cons, List.filter_append, List.nodup_append]
    refine ⟨?_, ih hhs', ?_⟩
    · rw [List.filter_map, nodup_map_pair]
      simpa [Function.comp_def] using hp
    · intro x hx y hy hxy
      subst hxy
      have h1 := (List.mem_filter.1 hx).1
      have h2 := (List.mem_filter.1 hy).1
      rw [List.mem_map] at h1
      obtain ⟨p, _, rfl⟩ := h1
      exact hnot ((mem_plan c hs _).1 h2).1

/-- the TCP listener `bindAll` leaves for a bound (address, port) pair -/
def tcpOf (x : Host × Nat) : Listener := .tcp x.1 x.2

/-- the unix listener, when configured, is created first -/
def pre (c : Config) : List Listener := if c.unix then [Listener.unix] else []

theorem listen_error (c : Config) (e : Env) (err : Err) (h : listen c e = .error err) :
    err = .addrInUse := by
  unfold listen at h
  split at h
  · rename_i e' heq; cases h; exact bindAll_error _ _ _ _ _ heq
  · cases h

theorem portsOf_map (h : Host) (l : List Nat) :
    portsOf (l.map (fun p => tcpOf (h, p))) = .ok l := by
  induction l with
  | nil => simp [portsOf]
  | cons p l ih => simp [portsOf, tcpOf] at ih ⊢; simp [ih]

theorem boundPorts_append (x y : List Listener) : boundPorts (x ++ y) = boundPorts x ++ boundPorts y := by
  induction x with
  | nil => simp [boundPorts]
  | cons z x ih => cases z <;> simp [boundPorts, ih]

theorem boundPorts_map (l : List (Host × Nat)) : boundPorts (l.map tcpOf) = l.map (·.2) := by
  induction l with
  | nil => simp [boundPorts]
  | cons z l ih => simp [boundPorts, tcpOf, ih]

theorem boundPorts_pre (c : Config) : boundPorts (pre c) = [] := by
  unfold pre; split <;> simp [boundPorts]

/-- ports bound on the first address, in creation order -/
theorem resolvePorts_tcpPorts (c : Config) (e : Env) :
    resolvePorts e.assign (off c) (tcpPorts c) =
      if c.unix then boundAdditional c e else boundPrimary c e :: boundAdditional c e := by
  unfold tcpPorts off boundAdditional boundPrimary
  cases c.unix <;> simp [resolvePorts]

theorem resolve_plan_cons (c : Config) (a : Nat → Nat) (h0 : Host) (hs : List Host) :
    resolve a (off c) (plan c (h0 :: hs)) =
      (resolvePorts a (off c) (tcpPorts c)).map (fun p => (h0, p)) ++
        resolve a (off c + (tcpPorts c).length) (plan c hs) := by
  rw [plan_cons, resolve_append, resolve_map_pair]; simp

/-- what `Proxy.setup` stores in `flags.ports` -/
def reportedAdditional (c : Config) (e : Env) : List Nat :=
  e.setOrder (if !c.unix && (boundAdditional c e).contains (boundPrimary c e)
    then (boundAdditional c e).filter (· ≠ boundPrimary c e) else boundAdditional c e)

theorem writeBack_pool (c : Config) (e : Env) (h0 : Host) (hs : List Host) :
    writeBack c e.setOrder (pre c ++ (resolve e.assign (off c) (plan c (h0 :: hs))).map tcpOf) =
      .ok (if c.unix then c.port else boundPrimary c e, reportedAdditional c e) := by
  rw [resolve_plan_cons, resolvePorts_tcpPorts]
  -- the slice `pool[1 : 1 + len(flags.ports)]` is the additional listeners on the first address
  have hlen : ((boundAdditional c e).map (fun p => tcpOf (h0, p))).length = c.ports.length := by
    rw [List.length_map, boundAdditional, resolvePorts_length]
  have ht := fun rest => List.take_left' (l₂ := rest) hlen
  cases hu : c.unix
  all_goals
    simp only [pre, hu, writeBack, reportedAdditional, Bool.false_eq_true, if_false, if_true, List.nil_append, List.map_append,
      List.map_cons, List.map_map, List.cons_append, List.drop_succ_cons, List.drop_zero, Function.comp_def,
      ht, hlen, portsOf_map, Nat.lt_irrefl]
    rfl

theorem fsListening_pidFile (c : Config) (e : Env) (fs0 : Fs) (h : c.pidFile = true) :
    (fsListening c e fs0).pidFile = some e.pid := by
  unfold fsListening writePid; rw [if_pos h]; split <;> rfl

theorem fsListening_unixPath (c : Config) (e : Env) (fs0 : Fs) (h : c.unix = true) :
    (fsListening c e fs0).unixPath = true := by
  unfold fsListening; rw [if_pos h]

theorem writePortFile_eq (c : Config) (fp : Nat) (fps : List Nat) (fs : Fs) :
    writePortFile c fp fps fs =
      { fs with portFile := if c.portFile then some (if c.unix then fps else fp :: fps) else fs.portFile } := by
  unfold writePortFile; split <;> rfl

theorem setOrder_ne_nil (c : Config) (hs : List Host) (h : SetOrder c hs) : hs ≠ [] := by
  intro h0
  have := h.2.2 c.hostname List.mem_cons_self
  simp [h0] at this

theorem setOrder_single (c : Config) (hs : List Host) (h : SetOrder c hs)
    (hall : ∀ h ∈ c.hostnames, h = c.hostname) : hs = [c.hostname] := by
  obtain ⟨hnd, hsub, hsup⟩ := h
  -- all members are `c.hostname`, it is one of them, and none occurs twice
  obtain ⟨n, rfl⟩ : ∃ n, hs = List.replicate n c.hostname :=
    ⟨_, List.eq_replicate_iff.2 ⟨rfl, fun x hx => (List.mem_cons.1 (hsub x hx)).elim id (hall x)⟩⟩
  have h1 := List.nodup_replicate.1 hnd
  have h0 := (List.mem_replicate.1 (hsup c.hostname List.mem_cons_self)).1
  obtain rfl : n = 1 := by omega
  rfl

/-- What a successful `Proxy.setup` returns: the unix listener (if any) then one TCP listener per
planned pair, `flags.port` / `flags.ports` as `writeBack` reads them off the first address, and the
files written. -/
def startedState (c : Config) (e : Env) (fs0 : Fs) : Started :=
  { pool := pre c ++ (resolve e.assign (off c) (plan c e.hs)).map tcpOf
    flagsPort := if c.unix then c.port else boundPrimary c e
    flagsPorts := reportedAdditional c e
    fs := writePortFile c (if c.unix then c.port else boundPrimary c e) (reportedAdditional c e)
      (fsListening c e fs0) }

theorem setup_cases (c : Config) (e : Env) (fs0 : Fs) (hne : e.hs ≠ []) :
    (bindAll e.assign (off c) [] (plan c e.hs) = .ok (resolve e.assign (off c) (plan c e.hs)) ∧
      setup c e fs0 = .started (startedState c e fs0)) ∨
    (bindAll e.assign (off c) [] (plan c e.hs) = .error .addrInUse ∧
      setup c e fs0 = .failed .addrInUse (fsListening c e fs0)) := by
  obtain ⟨h0, hs', hhs⟩ := List.exists_cons_of_ne_nil hne
  have hw := writeBack_pool c e h0 hs'
  rw [← hhs] at hw
  rcases bindAll_total e.assign (off c) [] (plan c e.hs) with hb | hb
  · have hl : listen c e = .ok (pre c ++ (resolve e.assign (off c) (plan c e.hs)).map tcpOf) := by
      rw [listen, hb]; rfl
    exact .inl ⟨hb, by rw [setup, hl]; simp only [hw]; rfl⟩
  · have hl : listen c e = .error .addrInUse := by rw [listen, hb]
    exact .inr ⟨hb, by rw [setup, hl]⟩

theorem setup_started (c : Config) (e : Env) (fs0 : Fs) (st : Started) (hne : e.hs ≠ [])
    (hst : setup c e fs0 = .started st) : st = startedState c e fs0 := by
  obtain ⟨_, hs⟩ | ⟨_, hs⟩ := setup_cases c e fs0 hne
  all_goals rw [hs] at hst; cases hst
  rfl

theorem boundPorts_started (c : Config) (e : Env) (fs0 : Fs) (hq : InQuantifier c) (hso : SetOrder c e.hs)
    (p : Nat) :
    p ∈ boundPorts (startedState c e fs0).pool ↔ p ∈ resolvePorts e.assign (off c) (tcpPorts c) := by
  show p ∈ boundPorts (pre c ++ _) ↔ _
  rw [boundPorts_append, boundPorts_pre, List.nil_append, boundPorts_map]
  by_cases hz : 0 ∈ tcpPorts c
  · have hs1 := setOrder_single c e.hs hso (hq hz)
    rw [hs1, resolve_plan_cons]
    simp [plan, resolve, List.map_map, Function.comp_def]
  · rw [resolve_fixed _ _ _ (plan_ne_zero c e.hs hz), resolvePorts_fixed _ _ _ hz]
    obtain ⟨h0, hs', hhs⟩ := List.exists_cons_of_ne_nil (setOrder_ne_nil c e.hs hso)
    constructor
    · intro hm
      obtain ⟨x, hx, rfl⟩ := List.mem_map.1 hm
      exact ((mem_plan c e.hs x).1 hx).2
    · intro hm
      exact List.mem_map.2 ⟨(h0, p), (mem_plan c e.hs _).2 ⟨by simp [hhs], hm⟩, rfl⟩

/-- What a started proxy reports about the ports bound on the first address
(`resolvePorts_tcpPorts` spells them out): each once, none 0, and `flags.ports` is the additional
ones among them, the `remove` in `Proxy.setup` finding nothing to drop. -/
structure Report (c : Config) (e : Env) : Prop where
  nodup : (resolvePorts e.assign (off c) (tcpPorts c)).Nodup
  nonzero : 0 ∉ resolvePorts e.assign (off c) (tcpPorts c)
  perm : (reportedAdditional c e).Perm (boundAdditional c e)

theorem setup_report (c : Config) (e : Env) (fs0 : Fs) (st : Started)
    (hso : SetOrder c e.hs) (hset : IsSetList e.setOrder) (hk : KernelFresh c e)
    (hst : setup c e fs0 = .started st) : Report c e := by
  have hne := setOrder_ne_nil c e.hs hso
  obtain ⟨hb, _⟩ | ⟨_, hs⟩ := setup_cases c e fs0 hne
  · obtain ⟨_, hnd, hnz⟩ := bindAll_ok_nodup _ _ _ _ _ hb hk
    obtain ⟨h0, hs, hhs⟩ := List.exists_cons_of_ne_nil hne
    rw [hhs, resolve_plan_cons] at hnd hnz
    have hnd := (nodup_map_pair h0 _).1 (List.nodup_append.1 hnd).1
    refine ⟨hnd, fun hm => hnz (h0, 0) (List.mem_append_left _ (List.mem_map.2 ⟨0, hm, rfl⟩)) rfl, ?_⟩
    have hadd : (boundAdditional c e).Nodup ∧ reportedAdditional c e = e.setOrder (boundAdditional c e) := by
      rw [resolvePorts_tcpPorts] at hnd
      unfold reportedAdditional
      cases hu : c.unix
      all_goals simp only [hu, Bool.false_eq_true, if_false, if_true] at hnd
      · obtain ⟨hpn, hand⟩ := List.nodup_cons.1 hnd
        simp [hpn, hand]
      · simp [hnd]
    rw [hadd.2]
    exact (List.perm_ext_iff_of_nodup (hset _).1 hadd.1).2 (hset _).2
  · rw [hs] at hst; cases hst

theorem insertSorted_mem (x y : Nat) (l : List Nat) : y ∈ insertSorted x l ↔ y = x ∨ y ∈ l := by
  induction l with
  | nil => simp [insertSorted]
  | cons z l ih =>
    unfold insertSorted
    split
    · simp
    · split
      · rename_i h; subst h; simp
      · simp [ih, or_left_comm]

theorem insertSorted_sorted (x : Nat) (l : List Nat) (h : l.Pairwise (· < ·)) :
    (insertSorted x l).Pairwise (· < ·) := by
  induction l with
  | nil => simp [insertSorted]
  | cons z l ih =>
    obtain ⟨hz, hl⟩ := List.pairwise_cons.1 h
    unfold insertSorted
    split
    · next hxz =>
      exact List.pairwise_cons.2 ⟨List.forall_mem_cons.2 ⟨hxz, fun a ha => Nat.lt_trans hxz (hz a ha)⟩, h⟩
    · split
      · exact h
      · refine List.pairwise_cons.2 ⟨fun a ha => ?_, ih hl⟩
        rcases (insertSorted_mem x a l).1 ha with rfl | ha
        · omega
        · exact hz a ha

theorem sortDedup_isSetList : IsSetList sortDedup := by
  intro l
  have key : (sortDedup l).Pairwise (· < ·) ∧ ∀ x, x ∈ sortDedup l ↔ x ∈ l := by
    induction l with
    | nil => simp [sortDedup]
    | cons y l ih =>
      have hs : sortDedup (y :: l) = insertSorted y (sortDedup l) := rfl
      rw [hs]
      exact ⟨insertSorted_sorted y _ ih.1, fun x => by rw [insertSorted_mem, ih.2]; simp⟩
  exact ⟨key.1.imp (fun h => Nat.ne_of_lt h), key.2⟩

end Px.Listen

import PxModel.Chunk
import PxProofs.BytesLemmas
import PxProofs.ChunkLemmas
import PxProofs.HexLemmas
/-!
# Chunked transfer coding: the encoder's output and the RFC grammar, inside the decoder's grammar

What `ChunkParser.to_chunks(raw, n)` writes is the rendering of `chunksOf n _ raw`, a valid
`Px.Chunk.ChunkedStream` (the grammar `ChunkLemmas.parse_stream` decodes completely) that decodes to `raw`
(`toChunks_in_grammar`).
`RStream` is the chunked-body grammar of RFC 7230 §4.1 written syntactically (chunk-size = 1*HEXDIG in
either case with leading zeros, optional chunk extensions, last-chunk = 1*"0", **no trailer part**:
trailers are not supported by the decoder, finding D22); it embeds into `ChunkedStream`
(`RStream.toStream`), so the decoder agrees with the reference decoder `refDecode` on it (`decode_rfc`).
-/
namespace Px.Codec

open Px.Chunk (ChunkedStream SizeLine)

/-- the stream written by `to_chunks(raw, size)`, as an element of the grammar -/
def chunksOf (size : Nat) : Nat → Bytes → ChunkedStream
  | 0, _ => .last [48] []
  | fuel + 1, raw =>
    if raw.isEmpty then .last [48] []
    else .chunk (natToHex (raw.take size).length) [] (raw.take size) (chunksOf size fuel (raw.drop size))

theorem chunksOf_nil (size fuel : Nat) : chunksOf size fuel [] = .last [48] [] := by
  cases fuel <;> rfl

theorem chunksOf_succ (size fuel : Nat) {raw : Bytes} (h : raw ≠ []) :
    chunksOf size (fuel + 1) raw =
      .chunk (natToHex (raw.take size).length) [] (raw.take size) (chunksOf size fuel (raw.drop size)) := by
  rw [chunksOf, if_neg (by simpa using h)]

/-- enough fuel: every chunk takes at least one byte -/
theorem chunk_fuel_step {size fuel : Nat} {raw : Bytes} (hs : 0 < size) (hne : raw ≠ [])
    (hf : raw.length ≤ fuel + 1) : (raw.drop size).length ≤ fuel := by
  have := List.length_pos_iff.2 hne
  rw [List.length_drop]; omega

theorem chunksOf_render (size fuel : Nat) (raw : Bytes) :
    (chunksOf size fuel raw).render = Px.Chunk.toChunksAux size fuel raw ++ [48] ++ CRLF ++ CRLF := by
  fun_induction chunksOf size fuel raw with
  | case1 raw => rfl
  | case2 fuel raw h => rw [Px.Chunk.toChunksAux, if_pos h]; rfl
  | case3 fuel raw h ih =>
    rw [ChunkedStream.render, ih, Px.Chunk.toChunksAux, if_neg h]
    simp only [List.append_assoc, List.nil_append]

theorem toChunks_render (raw : Bytes) (size : Nat) (h : size ≠ 0) :
    Px.Chunk.toChunks raw size = .ok (chunksOf size raw.length raw).render := by
  unfold Px.Chunk.toChunks
  have : (size == 0) = false := by simpa using h
  rw [this, chunksOf_render, b_ofList]; rfl

theorem chunksOf_decoded (size : Nat) (hs : 0 < size) (fuel : Nat) (raw : Bytes) (hf : raw.length ≤ fuel) :
    (chunksOf size fuel raw).decoded = raw := by
  fun_induction chunksOf size fuel raw with
  | case1 raw => exact (List.eq_nil_of_length_eq_zero (Nat.le_zero.1 hf)).symm
  | case2 fuel raw h => exact (List.isEmpty_iff.1 h).symm
  | case3 fuel raw h ih =>
    rw [ChunkedStream.decoded, ih (chunk_fuel_step hs (mt List.isEmpty_iff.2 h) hf), List.take_append_drop]

theorem sizeLine_of_digits {sz e : Bytes} (hne : sz ≠ []) (hd : ∀ c ∈ sz, isDigitIn 16 c = true)
    (he : e = [] ∨ e.head? = some 59) (hcr : ∀ c ∈ e, c ≠ CR) :
    SizeLine sz e (digitsVal 16 0 sz) := by
  refine ⟨pyInt_digits 16 sz hne hd (fun h => by cases h), ?_, ?_, he⟩
  · exact fun h => isDigitIn_ne (hd _ h) rfl rfl
  · apply splitCRLF_none_of_noCR
    intro c hc
    rcases List.mem_append.1 hc with hc | hc
    · exact isDigitIn_ne (hd c hc) rfl
    · exact hcr c hc

theorem sizeLine_natToHex (k : Nat) : SizeLine (natToHex k) [] k := by
  have := sizeLine_of_digits (natToHex_ne_nil k) (natToHex_isDigit k) (.inl rfl) (fun _ h => nomatch h)
  rwa [natToHex_eq, hexDigits_val, ← natToHex_eq] at this

theorem sizeLine_zero : SizeLine [48] [] 0 := sizeLine_natToHex 0

theorem chunksOf_valid (size : Nat) (hs : 0 < size) (fuel : Nat) (raw : Bytes) :
    (chunksOf size fuel raw).Valid := by
  fun_induction chunksOf size fuel raw with
  | case1 raw => exact sizeLine_zero
  | case2 fuel raw h => exact sizeLine_zero
  | case3 fuel raw h ih =>
    refine ⟨sizeLine_natToHex _, fun h' => ?_, ih⟩
    exact (List.take_eq_nil_iff.1 h').elim (Nat.ne_of_gt hs) fun hr => h (List.isEmpty_iff.2 hr)

theorem toChunks_in_grammar (body : Bytes) (n : Nat) (h : n ≠ 0) :
    (chunksOf n body.length body).Valid ∧ (chunksOf n body.length body).decoded = body ∧
      Px.Chunk.toChunks body n = .ok (chunksOf n body.length body).render :=
  ⟨chunksOf_valid n (by omega) _ _, chunksOf_decoded n (by omega) _ _ (Nat.le_refl _), toChunks_render body n h⟩

def ChunkedStream.count : ChunkedStream → Nat
  | .last _ _ => 0
  | .chunk _ _ _ r => ChunkedStream.count r + 1

theorem ceilDiv_step {l s : Nat} (hs : 0 < s) (hl : 0 < l) :
    (l + s - 1) / s = (l - s + s - 1) / s + 1 := by
  rw [Nat.sub_add_comm hl, Nat.add_div_right _ hs]
  by_cases h : s ≤ l
  · rw [Nat.sub_add_cancel h]
  · have hls : l < s := Nat.lt_of_not_le h
    rw [Nat.div_eq_of_lt (Nat.lt_of_le_of_lt (Nat.sub_le l 1) hls), Nat.sub_eq_zero_of_le (Nat.le_of_lt hls),
      Nat.zero_add s, Nat.div_eq_of_lt (Nat.sub_lt hs Nat.one_pos)]

theorem chunksOf_count (size : Nat) (hs : 0 < size) (fuel : Nat) (raw : Bytes) (hf : raw.length ≤ fuel) :
    ChunkedStream.count (chunksOf size fuel raw) = (raw.length + size - 1) / size := by
  have last : ChunkedStream.count (.last [48] []) = (0 + size - 1) / size := by
    rw [Nat.zero_add]; exact (Nat.div_eq_of_lt (Nat.sub_lt hs Nat.one_pos)).symm
  fun_induction chunksOf size fuel raw with
  | case1 raw => rw [List.eq_nil_of_length_eq_zero (Nat.le_zero.1 hf)]; exact last
  | case2 fuel raw h => rw [List.isEmpty_iff.1 h]; exact last
  | case3 fuel raw h ih =>
    have hne := mt List.isEmpty_iff.2 h
    rw [ChunkedStream.count, ih (chunk_fuel_step hs hne hf), List.length_drop,
      ceilDiv_step hs (List.length_pos_iff.2 hne)]

/-- HEXDIG -/
def isHexDig (c : UInt8) : Bool := (48 ≤ c && c ≤ 57) || (65 ≤ c && c ≤ 70) || (97 ≤ c && c ≤ 102)

def hexDigVal (c : UInt8) : Nat :=
  if c ≤ 57 then c.toNat - 48 else if c ≤ 70 then c.toNat - 55 else c.toNat - 87

def hexValue (s : Bytes) : Nat := s.foldl (fun a c => a * 16 + hexDigVal c) 0

/-- `chunk-ext = *( ";" chunk-ext-name [ "=" chunk-ext-val ] )`, read loosely as the receiving
    side must: empty, or `;` followed by anything that is not CR / LF -/
def extOk (e : Bytes) : Bool :=
  (e.isEmpty || e.head? == some 59) && e.all (fun c => c != 13 && c != 10)

/-- `chunk = chunk-size [ chunk-ext ] CRLF chunk-data CRLF` with `chunk-size > 0` -/
structure RChunk where
  size : Bytes
  ext : Bytes
  data : Bytes
  deriving DecidableEq, Repr

/-- `chunked-body = *chunk last-chunk CRLF` (no trailer-part), `last-chunk = 1*"0" [ chunk-ext ] CRLF` -/
structure RStream where
  chunks : List RChunk
  lastSize : Bytes
  lastExt : Bytes
  deriving DecidableEq, Repr

def RChunk.ok (c : RChunk) : Bool :=
  !c.size.isEmpty && c.size.all isHexDig && hexValue c.size == c.data.length && !c.data.isEmpty && extOk c.ext

def RStream.ok (s : RStream) : Bool :=
  s.chunks.all RChunk.ok && !s.lastSize.isEmpty && s.lastSize.all (· == 48) && extOk s.lastExt

def RChunk.render (c : RChunk) : Bytes := c.size ++ c.ext ++ CRLF ++ c.data ++ CRLF

def RStream.render (s : RStream) : Bytes :=
  (s.chunks.map RChunk.render).flatten ++ s.lastSize ++ s.lastExt ++ CRLF ++ CRLF

def refDecode (s : RStream) : Bytes := (s.chunks.map (·.data)).flatten

def toStreamAux (lastSize lastExt : Bytes) : List RChunk → ChunkedStream
  | [] => .last lastSize lastExt
  | c :: cs => .chunk c.size c.ext c.data (toStreamAux lastSize lastExt cs)

def RStream.toStream (s : RStream) : ChunkedStream := toStreamAux s.lastSize s.lastExt s.chunks

theorem hexDig_spec (c : UInt8) (h : isHexDig c = true) :
    isDigitIn 16 c = true ∧ digitVal c = some (hexDigVal c) := by
  -- HEXDIG bytes lie between `0` and `f`; the two value tables are compared on that range
  have hr : 48 ≤ c.toNat ∧ c.toNat ≤ 102 := by
    simp only [isHexDig, Bool.or_eq_true, Bool.and_eq_true, decide_eq_true_eq, UInt8.le_iff_toNat_le,
      UInt8.reduceToNat] at h
    omega
  have table : ∀ n, n < 55 → isHexDig (UInt8.ofNat (48 + n)) = true →
      isDigitIn 16 (UInt8.ofNat (48 + n)) = true ∧
        digitVal (UInt8.ofNat (48 + n)) = some (hexDigVal (UInt8.ofNat (48 + n))) := by decide +kernel
  have hc : c = UInt8.ofNat (48 + (c.toNat - 48)) := by
    rw [Nat.add_sub_cancel' hr.1, UInt8.ofNat_toNat]
  rw [hc] at h ⊢
  exact table _ (by omega) h

theorem hexValue_eq (s : Bytes) (h : s.all isHexDig = true) (acc : Nat) :
    s.foldl (fun a c => a * 16 + hexDigVal c) acc = digitsVal 16 acc s := by
  induction s generalizing acc with
  | nil => rfl
  | cons c cs ih =>
    simp only [List.all_cons, Bool.and_eq_true] at h
    simp only [List.foldl_cons, digitsVal_cons, (hexDig_spec c h.1).2, Option.getD_some]
    exact ih h.2 _

theorem sizeLine_of_hexdigs {sz e : Bytes} (hne : sz ≠ []) (hd : sz.all isHexDig = true) (he : extOk e = true) :
    SizeLine sz e (hexValue sz) := by
  obtain ⟨h1, h2⟩ := Bool.and_eq_true_iff.1 he
  rw [hexValue, hexValue_eq sz hd]
  exact sizeLine_of_digits hne (fun c hc => (hexDig_spec c (List.all_eq_true.1 hd c hc)).1)
    ((Bool.or_eq_true_iff.1 h1).imp List.isEmpty_iff.1 beq_iff_eq.1)
    (fun c hc => bne_iff_ne.1 (Bool.and_eq_true_iff.1 (List.all_eq_true.1 h2 c hc)).1)

theorem hexValue_zeros (s : Bytes) (h : s.all (· == 48) = true) : hexValue s = 0 := by
  induction s with
  | nil => rfl
  | cons c cs ih =>
    obtain ⟨h1, h2⟩ := Bool.and_eq_true_iff.1 h
    cases byte_beq.1 h1
    exact ih h2

theorem zeros_hexdig (s : Bytes) (h : s.all (· == 48) = true) : s.all isHexDig = true :=
  List.all_eq_true.2 fun c hc => by rw [byte_beq.1 (List.all_eq_true.1 h c hc)]; rfl

theorem toStreamAux_valid (ls le : Bytes) (cs : List RChunk) (hc : cs.all RChunk.ok = true)
    (hl : SizeLine ls le 0) : (toStreamAux ls le cs).Valid := by
  induction cs with
  | nil => exact hl
  | cons c cs ih =>
    simp only [List.all_cons, Bool.and_eq_true] at hc
    obtain ⟨hc1, hc2⟩ := hc
    simp only [RChunk.ok, Bool.and_eq_true, Bool.not_eq_true', List.isEmpty_eq_false_iff, beq_iff_eq] at hc1
    obtain ⟨⟨⟨⟨h1, h2⟩, h3⟩, h4⟩, h5⟩ := hc1
    refine ⟨?_, h4, ih hc2⟩
    rw [← h3]; exact sizeLine_of_hexdigs h1 h2 h5

theorem RStream.toStream_valid (s : RStream) (h : s.ok = true) : s.toStream.Valid := by
  simp only [RStream.ok, Bool.and_eq_true, Bool.not_eq_true', List.isEmpty_eq_false_iff] at h
  obtain ⟨⟨⟨h1, h2⟩, h3⟩, h4⟩ := h
  refine toStreamAux_valid _ _ _ h1 ?_
  have := sizeLine_of_hexdigs h2 (zeros_hexdig _ h3) h4
  rwa [hexValue_zeros _ h3] at this

theorem toStreamAux_render (ls le : Bytes) (cs : List RChunk) :
    (toStreamAux ls le cs).render = (cs.map RChunk.render).flatten ++ ls ++ le ++ CRLF ++ CRLF := by
  induction cs with
  | nil => rfl
  | cons c cs ih =>
    rw [toStreamAux, ChunkedStream.render, ih, List.map_cons, List.flatten_cons, RChunk.render]
    simp only [List.append_assoc]

theorem toStreamAux_decoded (ls le : Bytes) (cs : List RChunk) :
    (toStreamAux ls le cs).decoded = (cs.map (·.data)).flatten := by
  induction cs with
  | nil => rfl
  | cons c cs ih => rw [toStreamAux, ChunkedStream.decoded, ih]; rfl

theorem decode_rfc (s : RStream) (h : s.ok = true) (tail : Bytes) :
    Px.Chunk.parse Px.Chunk.init (s.render ++ tail) =
      .ok ({ state := .complete, body := refDecode s, chunk := [], size := none }, tail) := by
  have := Px.Chunk.parse_stream s.toStream (s.toStream_valid h) Px.Chunk.init rfl rfl tail
  rw [RStream.toStream, toStreamAux_render, toStreamAux_decoded] at this
  simpa [RStream.render, refDecode, Px.Chunk.init] using this

theorem hexDigit_isHexDig : ∀ d : Fin 16, isHexDig (hexDigit d.val) = true := by decide +kernel

theorem hexDigits_isHexDig (n : Nat) : ∀ c ∈ hexDigits n, isHexDig c = true := by
  induction n using Nat.strongRecOn with
  | ind n ih =>
    rw [hexDigits]
    split
    · rename_i hn
      intro c hc
      rw [List.mem_singleton.1 hc]; exact hexDigit_isHexDig ⟨n, hn⟩
    · rename_i hn
      intro c hc
      rcases List.mem_append.1 hc with hc | hc
      · exact ih (n / 16) (Nat.div_lt_self (Nat.lt_of_lt_of_le (by decide) (Nat.le_of_not_lt hn)) (by decide)) c hc
      · rw [List.mem_singleton.1 hc]; exact hexDigit_isHexDig ⟨n % 16, Nat.mod_lt _ (by decide)⟩

theorem natToHex_isHexDig (n : Nat) : ∀ c ∈ natToHex n, isHexDig c = true :=
  natToHex_eq n ▸ hexDigits_isHexDig n

theorem hexValue_natToHex (n : Nat) : hexValue (natToHex n) = n := by
  unfold hexValue
  rw [hexValue_eq _ (List.all_eq_true.2 (natToHex_isHexDig n)), natToHex_eq, hexDigits_val]

end Px.Codec

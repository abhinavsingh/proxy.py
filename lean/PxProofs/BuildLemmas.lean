import PxModel.Parser
import PxModel.Build
import PxProofs.BytesLemmas
import PxProofs.HexLemmas
import PxProofs.HeaderDict
import PxProofs.ParserInvariant
/-!
# The builders' output read back by the parser, part 1: header block (C15)

The parser's header loop on a block of header lines, however spelled, is `foldHdrs` (one `hdrApply` per header, in
order), then the blank line.  When the fold succeeds its result is an explicit record: `hdrFold` (Python dict of
lower-case key ↦ (name, value)) and the `Content-Length` / `Transfer-Encoding` deductions.  `HdrOK k v` is what a
header needs for `name ": " value CRLF` to be read back as `(name, value)`; `wfName` / `wfValue` are the decidable
sufficient condition.
-/
namespace Px.Codec

open Px.Parser Px.Build

def kCL : Bytes := [99, 111, 110, 116, 101, 110, 116, 45, 108, 101, 110, 103, 116, 104]
def kTE : Bytes := [116, 114, 97, 110, 115, 102, 101, 114, 45, 101, 110, 99, 111, 100, 105, 110, 103]
def kUA : Bytes := [117, 115, 101, 114, 45, 97, 103, 101, 110, 116]
def vChunked : Bytes := [99, 104, 117, 110, 107, 101, 100]
def nCL : Bytes := [67, 111, 110, 116, 101, 110, 116, 45, 76, 101, 110, 103, 116, 104]
def nCT : Bytes := [67, 111, 110, 116, 101, 110, 116, 45, 84, 121, 112, 101]
def nUA : Bytes := [85, 115, 101, 114, 45, 65, 103, 101, 110, 116]
def nConn : Bytes := [67, 111, 110, 110, 101, 99, 116, 105, 111, 110]
def vClose : Bytes := [99, 108, 111, 115, 101]

theorem bn_content_length : b "content-length" = kCL := by rw [b_ofList]; rfl
theorem bn_transfer_encoding : b "transfer-encoding" = kTE := by rw [b_ofList]; rfl
theorem bn_user_agent : b "user-agent" = kUA := by rw [b_ofList]; rfl
theorem bn_chunked : b "chunked" = vChunked := by rw [b_ofList]; rfl
theorem bn_Content_Length : b "Content-Length" = nCL := by rw [b_ofList]; rfl
theorem bn_Content_Type : b "Content-Type" = nCT := by rw [b_ofList]; rfl
theorem bn_User_Agent : b "User-Agent" = nUA := by rw [b_ofList]; rfl
theorem bn_Connection : b "Connection" = nConn := by rw [b_ofList]; rfl
theorem bn_close : b "close" = vClose := by rw [b_ofList]; rfl
theorem b_0 : b "0" = [48] := by rw [b_ofList]; rfl
theorem b_host : b "host" = [104, 111, 115, 116] := by rw [b_ofList]; rfl

theorem lower_nCL : lower nCL = kCL := by decide +kernel
theorem lower_nUA : lower nUA = kUA := by decide +kernel
theorem lower_kCL : lower kCL = kCL := by decide +kernel

/-- what the parser needs to read `name ": " value CRLF` back as `(name, value)` -/
def HdrOK (k v : Bytes) : Prop :=
  COLON ∉ k ∧ strip k = k ∧ strip v = v ∧ splitCRLF (buildHeader k v) = none

/-- header name of the theorems' guard: non-empty, no `:`, no whitespace (SP, HT, CR, LF, VT, FF) -/
def wfName (k : Bytes) : Bool := !k.isEmpty && k.all (fun c => c != 58 && !isWs c)

/-- header value of the guard: no CR, no LF, already stripped -/
def wfValue (v : Bytes) : Bool := v.all (fun c => c != 13 && c != 10) && strip v == v

def wfHeaders (h : HDict) : Bool := h.all (fun e => wfName e.1 && wfValue e.2)

theorem strip_noWs {k : Bytes} (h : ∀ c ∈ k, isWs c = false) : strip k = k := by
  apply strip_eq_self
  · intro c hc; exact h c (List.mem_of_mem_head? hc)
  · intro c hc; exact h c (List.mem_of_mem_getLast? hc)

theorem hdrOK_of_wf {k v : Bytes} (hk : wfName k = true) (hv : wfValue v = true) : HdrOK k v := by
  simp only [wfName, Bool.and_eq_true, Bool.not_eq_true', List.all_eq_true, byte_bne, ne_eq] at hk
  simp only [wfValue, Bool.and_eq_true, List.all_eq_true, byte_bne, ne_eq, bytes_beq] at hv
  refine ⟨?_, strip_noWs (fun c hc => (hk.2 c hc).2), hv.2, ?_⟩
  · intro hc; exact (hk.2 _ hc).1 rfl
  · apply splitCRLF_none_of_noCR
    intro c hc
    simp only [buildHeader, List.mem_append, List.mem_singleton] at hc
    rcases hc with ((hc | hc) | hc) | hc
    · intro e; subst e; exact absurd (hk.2 _ hc).2 (by decide)
    · subst hc; decide
    · subst hc; decide
    · intro e; subst e; exact (hv.1 _ hc).1 rfl

theorem wfHeaders_mem {hs : HDict} (h : wfHeaders hs = true) {e : Bytes × Bytes} (he : e ∈ hs) :
    wfName e.1 = true ∧ wfValue e.2 = true :=
  Bool.and_eq_true_iff.1 (List.all_eq_true.1 h e he)

theorem hdrOK_of_wfHeaders {H : HDict} (h : wfHeaders H = true) : ∀ e ∈ H, HdrOK e.1 e.2 :=
  fun _ he => hdrOK_of_wf (wfHeaders_mem h he).1 (wfHeaders_mem h he).2

/-- effect of one received header `(k, v)`: `add_header`, then the Content-Length /
    Transfer-Encoding deductions of `_process_header` -/
def hdrApply (p : Parser) (k v : Bytes) : Except Px.Parser.Err Parser :=
  let p := addHeader p k v
  if lower k == b "content-length" then
    match pyInt 10 v with
    | none => .error .valueError
    | some n => .ok { p with contentExpected := decide (n > 0) }
  else if lower k == b "transfer-encoding" && lower v == b "chunked" then .ok { p with isChunked := true }
  else .ok p

def isTEChunked (e : Bytes × Bytes) : Bool := lower e.1 == kTE && lower e.2 == vChunked

def isCL (e : Bytes × Bytes) : Bool := lower e.1 == kCL

theorem isTEChunked_of_isCL {e : Bytes × Bytes} (h : isCL e = true) : isTEChunked e = false := by
  have hk : lower e.1 = kCL := bytes_beq.1 h
  simp only [isTEChunked, hk, show (kCL == kTE) = false from by decide, Bool.false_and]

theorem isTEChunked_false_of {e : Bytes × Bytes} (h : lower e.1 ≠ kTE) : isTEChunked e = false := by
  rw [isTEChunked, bytes_beq_false.2 h, Bool.false_and]

theorem isCL_false_of {e : Bytes × Bytes} (h : lower e.1 ≠ kCL) : isCL e = false :=
  bytes_beq_false.2 h

theorem isTEChunked_key {e : Bytes × Bytes} (h : isTEChunked e = true) : lower e.1 = kTE := by
  simp only [isTEChunked, Bool.and_eq_true, bytes_beq] at h; exact h.1

theorem hdrApply_eq (p : Parser) (k v : Bytes) : hdrApply p k v =
    if isCL (k, v) then
      match pyInt 10 v with
      | none => .error .valueError
      | some n => .ok { addHeader p k v with contentExpected := decide (n > 0) }
    else .ok { addHeader p k v with isChunked := p.isChunked || isTEChunked (k, v) } := by
  unfold hdrApply
  rw [bn_content_length, bn_transfer_encoding, bn_chunked]
  show (if isCL (k, v) = true then _ else if isTEChunked (k, v) = true then _ else _) = _
  split
  · rfl
  · cases isTEChunked (k, v)
    · simp only [Bool.false_eq_true, if_false, Bool.or_false]; rfl
    · simp only [if_true, Bool.or_true]

theorem hdrApply_ok {p q : Parser} {k v : Bytes} (h : hdrApply p k v = .ok q) :
    ∃ ce, q = { p with headers := some (hdrSet (p.headers.getD []) (lower k) (k, v)),
                       isChunked := p.isChunked || isTEChunked (k, v), contentExpected := ce } ∧
      (isCL (k, v) = false → ce = p.contentExpected) ∧
      (isCL (k, v) = true → ∃ n, pyInt 10 v = some n ∧ ce = decide (n > 0)) := by
  rw [hdrApply_eq] at h
  split at h
  · rename_i hc
    cases hn : pyInt 10 v with
    | none => rw [hn] at h; cases h
    | some n =>
      rw [hn] at h; cases h
      refine ⟨decide (n > 0), ?_, fun h0 => absurd hc (by simp [h0]), fun _ => ⟨n, rfl, rfl⟩⟩
      simp only [isTEChunked_of_isCL hc, Bool.or_false]; rfl
  · rename_i hc
    cases h
    exact ⟨p.contentExpected, rfl, fun _ => rfl, fun h1 => absurd h1 hc⟩

theorem strip_sp_cons {v : Bytes} (h : strip v = v) : strip (SP :: v) = v := by
  rw [strip_cons_ws v (by decide), h]

theorem splitOnce1_buildHeader {k : Bytes} (hk : COLON ∉ k) (v : Bytes) :
    splitOnce1 COLON (buildHeader k v) = some (k, SP :: v) := by
  have : buildHeader k v = k ++ COLON :: (SP :: v) := by simp [buildHeader]
  rw [this]; exact splitOnce1_render _ _ _ hk

theorem processHeader_render (p : Parser) {k v : Bytes} (h : HdrOK k v) :
    processHeader p (buildHeader k v) = hdrApply p k v := by
  unfold processHeader hdrApply
  simp only [splitOnce1_buildHeader h.1, h.2.1, strip_sp_cons h.2.2.1]
  rfl

theorem buildHeader_not_blank (k v : Bytes) : (strip (buildHeader k v)).isEmpty = false := by
  have : strip (buildHeader k v) ≠ [] :=
    strip_ne_nil (c := COLON) (by simp [buildHeader]) (by decide)
  simpa using this

/-- the header lines of `build_http_pkt` -/
def renderHdrs (H : HDict) : Bytes := (H.map (fun (k, v) => buildHeader k v ++ CRLF)).flatten

theorem renderHdrs_cons (k v : Bytes) (H : HDict) :
    renderHdrs ((k, v) :: H) = buildHeader k v ++ CRLF ++ renderHdrs H := by
  simp [renderHdrs]

/-- the parser's header loop as a fold -/
def foldHdrs (p : Parser) : HDict → Except Px.Parser.Err Parser
  | [] => .ok p
  | (k, v) :: H =>
    match hdrApply { p with state := .rcvingHeaders } k v with
    | .error e => .error e
    | .ok q => foldHdrs q H

theorem append_crlf_ne_nil (a c : Bytes) : a ++ CRLF ++ c ≠ [] := by
  cases a <;> exact List.cons_ne_nil _ _

theorem processHeaders_blank (p : Parser) (hp : p.state = .lineRcvd ∨ p.state = .rcvingHeaders) (B : Bytes)
    (fuel : Nat) :
    processHeaders (fuel + 1) p (CRLF ++ B) = .ok ({ p with state := .headersComplete }, !B.isEmpty, B) := by
  rw [processHeaders_succ, show splitCRLF (CRLF ++ B) = some ([], B) from splitCRLF_render (l := []) rfl B]
  simp only [hdrStep_blank hp, beq_self_eq_true, Bool.or_true, if_true]

/-- `l` is a header line (no CRLF inside, not blank) that the parser reads as the header `(k, v)` -/
def ReadsAs (l k v : Bytes) : Prop :=
  splitCRLF l = none ∧ (strip l).isEmpty = false ∧ ∀ p, processHeader p l = hdrApply p k v

theorem readsAs_buildHeader {k v : Bytes} (h : HdrOK k v) : ReadsAs (buildHeader k v) k v :=
  ⟨h.2.2.2, buildHeader_not_blank k v, fun p => processHeader_render p h⟩

theorem processHeaders_line (p : Parser) (hp : p.state = .lineRcvd ∨ p.state = .rcvingHeaders) {l k v : Bytes}
    (h : ReadsAs l k v) {rest : Bytes} (hr : rest ≠ []) (fuel : Nat) :
    processHeaders (fuel + 1) p (l ++ CRLF ++ rest) =
      match hdrApply { p with state := .rcvingHeaders } k v with
      | .error e => .error e
      | .ok q => processHeaders fuel q rest := by
  rw [processHeaders_succ, splitCRLF_render h.1 rest]
  simp only [hdrStep_line hp h.2.1, h.2.2]
  cases hq : hdrApply { p with state := .rcvingHeaders } k v with
  | error e => rfl
  | ok q =>
    obtain ⟨ce, rfl, -⟩ := hdrApply_ok hq
    have hne : rest.isEmpty = false := by simpa using hr
    simp only [hne, Bool.false_or, show (PState.rcvingHeaders == PState.headersComplete) = false from rfl,
      Bool.false_eq_true, if_false]

theorem processHeaders_block {α : Type} (line : α → Bytes) (kv : α → Bytes × Bytes) (xs : List α)
    (hx : ∀ x ∈ xs, ReadsAs (line x) (kv x).1 (kv x).2) (p : Parser)
    (hp : p.state = .lineRcvd ∨ p.state = .rcvingHeaders) (B : Bytes) (fuel : Nat) (hf : xs.length < fuel) :
    processHeaders fuel p ((xs.map (fun x => line x ++ CRLF)).flatten ++ CRLF ++ B) =
      match foldHdrs p (xs.map kv) with
      | .error e => .error e
      | .ok q => .ok ({ q with state := .headersComplete }, !B.isEmpty, B) := by
  induction xs generalizing p fuel with
  | nil =>
    cases fuel with
    | zero => exact absurd hf (Nat.not_lt_zero _)
    | succ fuel => exact processHeaders_blank p hp B fuel
  | cons x xs ih =>
    cases fuel with
    | zero => exact absurd hf (Nat.not_lt_zero _)
    | succ fuel =>
      rw [List.map_cons, List.flatten_cons, List.append_assoc, List.append_assoc,
        processHeaders_line p hp (hx x List.mem_cons_self) (List.append_assoc .. ▸ append_crlf_ne_nil _ _),
        List.map_cons, foldHdrs]
      cases hq : hdrApply { p with state := .rcvingHeaders } (kv x).1 (kv x).2 with
      | error e => rfl
      | ok q =>
        obtain ⟨ce, rfl, -⟩ := hdrApply_ok hq
        rw [← List.append_assoc]
        exact ih (fun y hy => hx y (List.mem_cons_of_mem _ hy)) _ (.inr rfl) fuel (Nat.lt_of_succ_lt_succ hf)

theorem processHeaders_render (H : HDict) (hH : ∀ e ∈ H, HdrOK e.1 e.2) (p : Parser)
    (hp : p.state = .lineRcvd ∨ p.state = .rcvingHeaders) (B : Bytes) (fuel : Nat) (hf : H.length < fuel) :
    processHeaders fuel p (renderHdrs H ++ CRLF ++ B) =
      match foldHdrs p H with
      | .error e => .error e
      | .ok q => .ok ({ q with state := .headersComplete }, !B.isEmpty, B) := by
  have := processHeaders_block (fun e : Bytes × Bytes => buildHeader e.1 e.2) id H
    (fun e he => readsAs_buildHeader (hH e he)) p hp B fuel hf
  rw [List.map_id] at this
  exact this

/-- Python dict of lower-case key ↦ (name, value): a repeated key keeps its position and
    takes the last (name, value) -/
def hdrFold (h0 : Headers) (H : HDict) : Headers :=
  H.foldl (fun acc e => hdrSet acc (lower e.1) (e.1, e.2)) h0

theorem hdrFold_cons (h0 : Headers) (e : Bytes × Bytes) (H : HDict) :
    hdrFold h0 (e :: H) = hdrFold (hdrSet h0 (lower e.1) (e.1, e.2)) H := rfl

theorem hdrFold_append (h0 : Headers) (H1 H2 : HDict) : hdrFold h0 (H1 ++ H2) = hdrFold (hdrFold h0 H1) H2 := by
  simp [hdrFold]

def clValuesOK (H : HDict) : Prop := ∀ e ∈ H, isCL e = true → ∃ n, pyInt 10 e.2 = some n

theorem foldHdrs_ok (H : HDict) (hcl : clValuesOK H) (p : Parser) : ∃ q, foldHdrs p H = .ok q := by
  induction H generalizing p with
  | nil => exact ⟨p, rfl⟩
  | cons e H ih =>
    obtain ⟨k, v⟩ := e
    have hq : ∃ q, hdrApply { p with state := .rcvingHeaders } k v = .ok q := by
      rw [hdrApply_eq]
      split
      · rename_i hc
        obtain ⟨n, hn⟩ := hcl (k, v) List.mem_cons_self hc
        exact ⟨_, by rw [hn]⟩
      · exact ⟨_, rfl⟩
    obtain ⟨q, hq⟩ := hq
    simp only [foldHdrs, hq]
    exact ih (fun e he => hcl e (List.mem_cons_of_mem _ he)) q

/-- the last `content-length` header decides the body expectation; said here only for the case that all of them
    read as the same `n` -/
theorem foldHdrs_eq (H : HDict) {p q : Parser} (h : foldHdrs p H = .ok q) :
    ∃ ce, q = { p with state := if H = [] then p.state else .rcvingHeaders,
                          headers := if H = [] then p.headers else some (hdrFold (p.headers.getD []) H),
                          isChunked := p.isChunked || H.any isTEChunked, contentExpected := ce } ∧
      ∀ n : Int, (∀ e ∈ H, isCL e = true → pyInt 10 e.2 = some n) →
        ce = if H.any isCL then decide (n > 0) else p.contentExpected := by
  induction H generalizing p with
  | nil =>
    simp only [foldHdrs, Except.ok.injEq] at h; subst h
    exact ⟨p.contentExpected, by simp, fun _ _ => rfl⟩
  | cons e H ih =>
    obtain ⟨k, v⟩ := e
    simp only [foldHdrs] at h
    cases hq : hdrApply { p with state := .rcvingHeaders } k v with
    | error e => simp [hq] at h
    | ok q1 =>
      rw [hq] at h
      obtain ⟨ce1, rfl, hce0, hce1⟩ := hdrApply_ok hq
      obtain ⟨ce, rfl, hce⟩ := ih h
      refine ⟨ce, ?_, fun n hall => ?_⟩
      · by_cases hH : H = [] <;> simp [hH, hdrFold, Bool.or_assoc]
      · rw [hce n (fun e he => hall e (List.mem_cons_of_mem _ he)), List.any_cons]
        cases hk : isCL (k, v) with
        | false => rw [hce0 hk]; rfl
        | true =>
          obtain ⟨n', hn', rfl⟩ := hce1 hk
          have := hall (k, v) List.mem_cons_self hk
          rw [hn'] at this; cases this
          rw [Bool.true_or, if_pos rfl]; split <;> rfl

theorem hdrGet_hdrFold_cl (H : HDict) (h0 : Headers) :
    ((∀ e ∈ H, isCL e = false) ∧ hdrGet (hdrFold h0 H) kCL = hdrGet h0 kCL) ∨
    ∃ e ∈ H, isCL e = true ∧ hdrGet (hdrFold h0 H) kCL = some (e.1, e.2) := by
  induction H generalizing h0 with
  | nil => exact .inl ⟨nofun, rfl⟩
  | cons e H ih =>
    rw [hdrFold_cons]
    rcases ih (hdrSet h0 (lower e.1) (e.1, e.2)) with ⟨hn, hg⟩ | ⟨e', he', h'⟩
    · rw [hdrGet_hdrSet] at hg
      cases hc : isCL e with
      | true => exact .inr ⟨e, List.mem_cons_self, hc, by rw [hg, if_pos (bytes_beq.1 hc).symm]⟩
      | false =>
        refine .inl ⟨List.forall_mem_cons.2 ⟨hc, hn⟩, ?_⟩
        rw [hg, if_neg fun h => bytes_beq_false.1 hc h.symm]
    · exact .inr ⟨e', List.mem_cons_of_mem _ he', h'⟩

end Px.Codec

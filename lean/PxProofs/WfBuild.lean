import PxProofs.WfLemmas
import PxModel.Responses
import PxProofs.HeaderDict
/-! `WF_response` accepts what `Px.Build.buildResponse` prints, for all arguments inside the guard
    `SafeArgs`: the printed packet is read back part by part (status line, header block, framing). -/
namespace Px.Wf

open Px.Build
open Px.Codec (mem_dSet mem_dSet_self mem_dSet_of_mem)

/-- how `WF_response` sees a header printed by `build_http_header` -/
def conv (e : Bytes × Bytes) : Bytes × Bytes := (lowerB e.1, trimOWS (32 :: e.2))

def renderHs (hs : HDict) : Bytes := (hs.map (fun (k, v) => buildHeader k v ++ CRLF)).flatten

def entryOk (e : Bytes × Bytes) : Bool := isToken e.1 && e.2.all isFieldByte

theorem renderHs_nil : renderHs [] = [] := rfl

theorem renderHs_cons (k v : Bytes) (t : HDict) :
    renderHs ((k, v) :: t) = (k ++ 58 :: 32 :: v) ++ 13 :: 10 :: renderHs t := by
  simp [renderHs, buildHeader, COLON, SP, CRLF]

theorem renderHs_length (hs : HDict) : hs.length ≤ (renderHs hs).length := by
  induction hs with
  | nil => simp [renderHs]
  | cons e t ih =>
    obtain ⟨k, v⟩ := e
    rw [renderHs_cons]; simp; omega

theorem headerLine_render (k v : Bytes) (hk : isToken k = true) (hv : v.all isFieldByte = true) :
    headerLine (k ++ 58 :: 32 :: v) = some (conv (k, v)) := by
  have hk' : ∀ c ∈ k, c ≠ 58 := by
    intro c hc
    simp only [isToken, Bool.and_eq_true, List.all_eq_true] at hk
    exact ne_of_class (hk.2 c hc)
  unfold headerLine
  rw [cutAt_render 58 k (32 :: v) hk']
  have : (32 :: v).all isFieldByte = true := by
    simp only [List.all_cons, hv, Bool.and_true]; decide
  simp only [hk, this, Bool.and_self, if_true, conv]

theorem entry_no13 (k v : Bytes) (hk : isToken k = true) (hv : v.all isFieldByte = true) :
    ∀ c ∈ k ++ 58 :: 32 :: v, c ≠ 13 := by
  intro c hc
  simp only [isToken, Bool.and_eq_true, List.all_eq_true] at hk hv
  simp only [List.mem_append, List.mem_cons] at hc
  rcases hc with h | h | h | h
  · exact ne_of_class (hk.2 c h)
  · subst h; decide
  · subst h; decide
  · exact ne_of_class (hv c h)

theorem headerBlock_render (hs : HDict) (body : Bytes) (fuel : Nat) (hf : hs.length < fuel)
    (h : hs.all entryOk = true) :
    headerBlock fuel (renderHs hs ++ 13 :: 10 :: body) = some (hs.map conv, body) := by
  induction hs generalizing fuel with
  | nil =>
    cases fuel with
    | zero => omega
    | succ f => simp [renderHs, headerBlock, cutLine]
  | cons e t ih =>
    obtain ⟨k, v⟩ := e
    cases fuel with
    | zero => omega
    | succ f =>
      simp only [List.all_cons, Bool.and_eq_true, entryOk] at h
      obtain ⟨⟨hk, hv⟩, ht⟩ := h
      rw [renderHs_cons, List.append_assoc, List.cons_append, List.cons_append]
      unfold headerBlock
      rw [cutLine_render _ _ (entry_no13 k v hk hv)]
      have hne : (k ++ 58 :: 32 :: v).isEmpty = false := by
        cases k with
        | nil => simp [isToken] at hk
        | cons _ _ => rfl
      simp only [hne, Bool.false_eq_true, if_false, headerLine_render k v hk hv]
      rw [ih f (by simp at hf; omega) ht]
      simp

theorem no13_of_field {l : Bytes} (h : l.all isFieldByte = true) : ∀ c ∈ l, c ≠ 13 :=
  fun c hc => ne_of_class (List.all_eq_true.mp h c hc)

theorem statusLine_mk (v a b c : UInt8) (rest : Bytes) (hv : isDigit v = true) (ha : isDigit a = true)
    (hb : isDigit b = true) (hc : isDigit c = true)
    (hrest : rest = [] ∨ ∃ r, rest = 32 :: r ∧ r.all isFieldByte = true) :
    statusLine (72 :: 84 :: 84 :: 80 :: 47 :: 49 :: 46 :: v :: 32 :: a :: b :: c :: rest) =
        some ((a.toNat - 48) * 100 + (b.toNat - 48) * 10 + (c.toNat - 48)) ∧
      ∀ x ∈ 72 :: 84 :: 84 :: 80 :: 47 :: 49 :: 46 :: v :: 32 :: a :: b :: c :: rest, x ≠ 13 := by
  have hf : rest.all isFieldByte = true := by
    rcases hrest with rfl | ⟨r, rfl, hr⟩
    · rfl
    · simp only [List.all_cons, hr]; decide
  constructor
  · rcases hrest with rfl | ⟨r, rfl, hr⟩
    · rw [statusLine.eq_1, hv, ha, hb, hc]; rfl
    · rw [statusLine.eq_2]
      simp only [hv, ha, hb, hc, hr, beq_self_eq_true, Bool.and_self, if_true]
  · apply no13_of_field
    simp only [List.all_cons, digit_field hv, digit_field ha, digit_field hb, digit_field hc, hf]
    decide

theorem wf_of_parts (ctx : Ctx) (line : Bytes) (code : Nat) (H : HDict) (body : Bytes)
    (hline13 : ∀ c ∈ line, c ≠ 13) (hsl : statusLine line = some code) (hcode : 100 ≤ code)
    (hH : H.all entryOk = true) (hfr : framingOk ctx code (H.map conv) body = true) :
    WF_response ctx (line ++ CRLF ++ renderHs H ++ CRLF ++ body) = true := by
  have e : line ++ CRLF ++ renderHs H ++ CRLF ++ body = line ++ 13 :: 10 :: (renderHs H ++ 13 :: 10 :: body) := by
    simp [CRLF]
  rw [e]
  unfold WF_response
  rw [cutLine_render _ _ hline13]
  simp only [hsl]
  rw [headerBlock_render H body _ (by have := renderHs_length H; simp; omega) hH]
  simp [hcode, hfr]

theorem mem_values_conv {H : HDict} {name x : Bytes} :
    x ∈ values (H.map conv) name ↔ ∃ e ∈ H, lowerB e.1 = name ∧ trimOWS (32 :: e.2) = x := by
  unfold values
  simp only [List.mem_map, List.mem_filter, beq_iff_eq]
  constructor
  · rintro ⟨e', ⟨⟨e, he, rfl⟩, hn⟩, rfl⟩
    exact ⟨e, he, hn, rfl⟩
  · rintro ⟨e, he, hn, rfl⟩
    exact ⟨conv e, ⟨⟨e, he, rfl⟩, hn⟩, rfl⟩

theorem values_conv_nil {H : HDict} {name : Bytes} (h : ∀ e ∈ H, lowerB e.1 ≠ name) :
    values (H.map conv) name = [] := by
  apply List.eq_nil_iff_forall_not_mem.mpr
  intro x hx
  obtain ⟨e, he, hn, _⟩ := mem_values_conv.mp hx
  exact h e he hn

theorem clOf_const (L : List Bytes) (w : Bytes) (n : Nat) (hne : L ≠ []) (hall : ∀ x ∈ L, x = w)
    (hw : decNat w = some n) : clOf L = some (some n) := by
  cases L with
  | nil => exact absurd rfl hne
  | cons v rest =>
    have hv : v = w := hall v (by simp)
    subst hv
    unfold clOf
    simp only [hw]
    have : rest.all (fun w' => decNat w' == some n) = true := by
      rw [List.all_eq_true]; intro x hx
      rw [hall x (by simp [hx]), hw]; simp
    simp [this]

def kCL : Bytes := b "Content-Length"
def kConn : Bytes := b "Connection"
def vClose : Bytes := b "close"

theorem lowerB_kCL : lowerB kCL = nCL := by rw [kCL, b_ofList]; decide +kernel
theorem isToken_kCL : isToken kCL = true := by rw [kCL, b_ofList]; decide +kernel
theorem kCL_not_te : lowerB kCL ≠ nTE := by rw [kCL, b_ofList]; decide +kernel
theorem lowerB_kConn : lowerB kConn = nConn := by rw [kConn, b_ofList]; decide +kernel
theorem isToken_kConn : isToken kConn = true := by rw [kConn, b_ofList]; decide +kernel
theorem kConn_not_te : lowerB kConn ≠ nTE := by rw [kConn, b_ofList]; decide +kernel
theorem kConn_not_cl : lowerB kConn ≠ nCL := by rw [kConn, b_ofList]; decide +kernel
theorem vClose_fieldBytes : vClose.all isFieldByte = true := by rw [vClose, b_ofList]; decide +kernel
theorem vClose_hasClose : (listTokens (trimOWS (32 :: vClose))).contains tClose = true := by
  rw [vClose, b_ofList]; decide +kernel
theorem b_te : b "transfer-encoding" = nTE := by rw [b_ofList]; decide +kernel

theorem hasClose_of_mem {H : HDict} (h : (kConn, vClose) ∈ H) : hasClose (H.map conv) = true := by
  unfold hasClose
  rw [List.any_eq_true]
  exact ⟨trimOWS (32 :: vClose), mem_values_conv.mpr ⟨(kConn, vClose), h, lowerB_kConn, rfl⟩, vClose_hasClose⟩

def bodyless (code : Nat) : Bool := code < 200 || code == 204 || code == 304

/-- a header entry the builders can take: a token as name, a value of field bytes (no CR / LF /
    other control byte), not a Transfer-Encoding (the caller would have to supply a matching body),
    and a Content-Length only under the exact name the builder overwrites -/
def headerOk (noCl : Bool) (e : Bytes × Bytes) : Bool :=
  isToken e.1 && e.2.all isFieldByte && lowerB e.1 != nTE && (lowerB e.1 != nCL || (e.1 == kCL && !noCl))

def plainName (k : Bytes) : Bool := isToken k && lowerB k != nTE && lowerB k != nCL

theorem headerOk_plain {noCl : Bool} {k v : Bytes} (hk : plainName k = true) (hv : v.all isFieldByte = true) :
    headerOk noCl (k, v) = true := by
  simp only [plainName, Bool.and_eq_true] at hk
  simp only [headerOk, hk.1.1, hk.1.2, hk.2, hv, Bool.true_or, Bool.and_self]

/-- the arguments of `build_http_response` for which the output is well formed.
    `ctx` says which request is being answered. -/
def SafeArgs (ctx : Ctx) (status : Int) (version : Bytes) (reason : Option Bytes) (headers : HDict)
    (body : Option Bytes) (connClose noCl : Bool) : Bool :=
  (version == Px.Gen.http11 || version == Px.Gen.http10) &&
  decide (100 ≤ status) && decide (status ≤ 999) &&
  (match reason with | none => true | some r => r.all isFieldByte) &&
  headers.all (headerOk noCl) &&
  (let empty := (body.getD []).isEmpty
   let code := status.toNat
   if ctx == .connect && 200 ≤ code && code < 300 then noCl && empty
   else if bodyless code then empty
   else !noCl || connClose)

def reasonPart : Option Bytes → List Bytes
  | some r => if r.isEmpty then [] else [r]
  | none => []

def bodyTruthy : Option Bytes → Bool
  | some x => !x.isEmpty
  | none => false

/-- the Content-Length value `build_http_response` writes -/
def clValue (body : Option Bytes) : Bytes :=
  if bodyTruthy body then natToDec (body.getD []).length else b "0"

/-- the header dict after `headers[b'Content-Length'] = …` and `headers[b'Connection'] = b'close'` -/
def finalHeaders (headers : HDict) (body : Option Bytes) (connClose noCl : Bool) : HDict :=
  let H1 := if noCl then headers else dSet headers kCL (clValue body)
  if connClose then dSet H1 kConn vClose else H1

theorem buildResponse_eq (status : Int) (version : Bytes) (reason : Option Bytes) (headers : HDict)
    (body : Option Bytes) (connClose noCl : Bool)
    (hTE : headers.any (fun e => lower e.1 == b "transfer-encoding") = false) :
    buildResponse status version reason headers body connClose noCl =
      join [SP] ([version, intToDec status] ++ reasonPart reason) ++ CRLF ++
        renderHs (finalHeaders headers body connClose noCl) ++ CRLF ++ body.getD [] := by
  unfold buildResponse buildPkt
  simp only [hTE, Bool.not_false, Bool.true_and]
  cases noCl <;> cases body <;> rfl

theorem clValue_eq (body : Option Bytes) : clValue body = natToDec (body.getD []).length := by
  have h0 : b "0" = natToDec 0 := by rw [b_ofList]; decide +kernel
  unfold clValue
  split
  · rfl
  · next h =>
    rw [h0]
    cases body with
    | none => rfl
    | some x =>
      cases x with
      | nil => rfl
      | cons _ _ => exact absurd rfl h

theorem clv_facts (body : Option Bytes) :
    decNat (trimOWS (32 :: clValue body)) = some (body.getD []).length ∧ (clValue body).all isFieldByte = true := by
  rw [clValue_eq, trimOWS_sp _ (natToDec_no_ows _)]
  exact ⟨decNat_natToDec _, natToDec_field _⟩

theorem headerOk_entry {noCl : Bool} {e : Bytes × Bytes} (h : headerOk noCl e = true) :
    entryOk e = true ∧ lowerB e.1 ≠ nTE ∧ (lowerB e.1 = nCL → e.1 = kCL ∧ noCl = false) := by
  simp only [headerOk, Bool.and_eq_true, Bool.or_eq_true, bne_iff_ne, ne_eq, beq_iff_eq, Bool.not_eq_true'] at h
  obtain ⟨⟨⟨hk, hv⟩, hte⟩, hcl⟩ := h
  refine ⟨by simp [entryOk, hk, hv], hte, ?_⟩
  intro hl
  rcases hcl with h | h
  · exact absurd hl h
  · exact h

theorem kCL_ne_kConn : kCL ≠ kConn := by
  intro heq
  have : lowerB kCL = lowerB kConn := by rw [heq]
  rw [lowerB_kCL, lowerB_kConn] at this
  exact absurd this (by decide)

theorem mem_finalHeaders {headers : HDict} {body : Option Bytes} {connClose noCl : Bool} {e : Bytes × Bytes}
    (he : e ∈ finalHeaders headers body connClose noCl) :
    e = (kConn, vClose) ∨ (noCl = false ∧ e = (kCL, clValue body)) ∨ (e ∈ headers ∧ (noCl = false → e.1 ≠ kCL)) := by
  have h1 : ∀ e ∈ (if noCl then headers else dSet headers kCL (clValue body)),
      (noCl = false ∧ e = (kCL, clValue body)) ∨ (e ∈ headers ∧ (noCl = false → e.1 ≠ kCL)) := by
    intro e he
    cases noCl with
    | true => exact Or.inr ⟨he, nofun⟩
    | false =>
      rcases mem_dSet he with rfl | ⟨h', hne⟩
      · exact Or.inl ⟨rfl, rfl⟩
      · exact Or.inr ⟨h', fun _ => hne⟩
  unfold finalHeaders at he
  cases connClose with
  | false => exact Or.inr (h1 e he)
  | true =>
    rcases mem_dSet he with rfl | ⟨h', _⟩
    · exact Or.inl rfl
    · exact Or.inr (h1 e h')

theorem cl_mem_finalHeaders (headers : HDict) (body : Option Bytes) (connClose : Bool) :
    (kCL, clValue body) ∈ finalHeaders headers body connClose false := by
  unfold finalHeaders
  cases connClose with
  | false => exact mem_dSet_self _ _ _
  | true => exact mem_dSet_of_mem (mem_dSet_self _ _ _) kCL_ne_kConn

theorem conn_mem_finalHeaders (headers : HDict) (body : Option Bytes) (noCl : Bool) :
    (kConn, vClose) ∈ finalHeaders headers body true noCl :=
  mem_dSet_self _ _ _

theorem finalHeaders_entry {headers : HDict} {body : Option Bytes} {connClose noCl : Bool}
    (hall : ∀ e ∈ headers, headerOk noCl e = true) {e : Bytes × Bytes}
    (he : e ∈ finalHeaders headers body connClose noCl) :
    entryOk e = true ∧ lowerB e.1 ≠ nTE ∧ (lowerB e.1 = nCL → noCl = false ∧ e = (kCL, clValue body)) := by
  rcases mem_finalHeaders he with rfl | ⟨hn, rfl⟩ | ⟨h', hne⟩
  · exact ⟨by simp [entryOk, isToken_kConn, vClose_fieldBytes], kConn_not_te, fun hl => absurd hl kConn_not_cl⟩
  · exact ⟨by simp [entryOk, isToken_kCL, (clv_facts body).2], kCL_not_te, fun _ => ⟨hn, rfl⟩⟩
  · obtain ⟨hok, hte, hcl⟩ := headerOk_entry (hall e h')
    exact ⟨hok, hte, fun hl => absurd (hcl hl).1 (hne (hcl hl).2)⟩

theorem finalHeaders_facts (headers : HDict) (body : Option Bytes) (connClose noCl : Bool)
    (hall : ∀ e ∈ headers, headerOk noCl e = true) :
    let H := finalHeaders headers body connClose noCl
    H.all entryOk = true ∧ values (H.map conv) nTE = [] ∧
      clOf (values (H.map conv) nCL) = (if noCl then none else some (some (body.getD []).length)) ∧
      (connClose = true → hasClose (H.map conv) = true) := by
  intro H
  have hent := fun e (he : e ∈ H) => finalHeaders_entry hall he
  refine ⟨List.all_eq_true.mpr fun e he => (hent e he).1, values_conv_nil fun e he => (hent e he).2.1, ?_, fun hc => ?_⟩
  · cases noCl with
    | true =>
      rw [values_conv_nil fun e he hl => Bool.noConfusion ((hent e he).2.2 hl).1]
      rfl
    | false =>
      -- the builder's own entry is there, and every Content-Length entry is that one
      refine clOf_const _ (trimOWS (32 :: clValue body)) _ ?_ ?_ (clv_facts body).1
      · exact List.ne_nil_of_mem
          (mem_values_conv.mpr ⟨_, cl_mem_finalHeaders headers body connClose, lowerB_kCL, rfl⟩)
      · intro x hx
        obtain ⟨e, he, hl, rfl⟩ := mem_values_conv.mp hx
        rw [((hent e he).2.2 hl).2]
  · subst hc
    exact hasClose_of_mem (conn_mem_finalHeaders headers body noCl)

theorem statusLine_render (v a b c : UInt8) (reason : Option Bytes) (hv : isDigit v = true) (ha : isDigit a = true)
    (hb : isDigit b = true) (hc : isDigit c = true)
    (hreason : (match reason with | none => true | some r => r.all isFieldByte) = true) :
    statusLine (join [SP] ([[72, 84, 84, 80, 47, 49, 46, v], [a, b, c]] ++ reasonPart reason)) =
        some ((a.toNat - 48) * 100 + (b.toNat - 48) * 10 + (c.toNat - 48)) ∧
      ∀ x ∈ join [SP] ([[72, 84, 84, 80, 47, 49, 46, v], [a, b, c]] ++ reasonPart reason), x ≠ 13 := by
  cases reason with
  | none => exact statusLine_mk v a b c [] hv ha hb hc (Or.inl rfl)
  | some r =>
    by_cases hr : r.isEmpty = true
    · simp only [reasonPart, hr, if_true]
      exact statusLine_mk v a b c [] hv ha hb hc (Or.inl rfl)
    · simp only [reasonPart, hr]
      exact statusLine_mk v a b c (32 :: r) hv ha hb hc (Or.inr ⟨r, rfl, hreason⟩)

theorem framing_core (ctx : Ctx) (code : Nat) (Hc : List (Bytes × Bytes)) (bodyB : Bytes) (connClose noCl : Bool)
    (hte : values Hc nTE = [])
    (hcl : clOf (values Hc nCL) = if noCl then none else some (some bodyB.length))
    (hclose : connClose = true → hasClose Hc = true)
    (hframe : (if (ctx == Ctx.connect && decide (200 ≤ code) && decide (code < 300)) = true then noCl && bodyB.isEmpty
        else if bodyless code = true then bodyB.isEmpty else !noCl || connClose) = true) :
    framingOk ctx code Hc bodyB = true := by
  unfold framingOk
  unfold bodyless at hframe
  simp only [hcl, hte, List.isEmpty_nil, Bool.not_true, Bool.false_eq_true, if_false, List.flatMap_nil]
  by_cases h1 : (ctx == Ctx.connect && decide (200 ≤ code) && decide (code < 300)) = true
  · rw [if_pos h1] at hframe ⊢
    simp only [Bool.and_eq_true] at hframe
    simp [hframe.1, hframe.2]
  · rw [if_neg h1] at hframe ⊢
    by_cases h2 : (decide (code < 200) || code == 204 || code == 304) = true
    · rw [if_pos h2] at hframe ⊢
      have hlen : bodyB.length = 0 := by
        cases bodyB with
        | nil => rfl
        | cons _ _ => simp at hframe
      cases noCl <;> simp [hframe, hlen]
    · rw [if_neg h2] at hframe ⊢
      cases noCl with
      | false => simp
      | true =>
        simp only [Bool.not_true, Bool.false_or] at hframe
        simp [hclose hframe]

theorem buildResponse_wf (ctx : Ctx) (status : Int) (version : Bytes) (reason : Option Bytes) (headers : HDict)
    (body : Option Bytes) (connClose noCl : Bool)
    (h : SafeArgs ctx status version reason headers body connClose noCl = true) :
    WF_response ctx (buildResponse status version reason headers body connClose noCl) = true := by
  simp only [SafeArgs, Bool.and_eq_true, decide_eq_true_eq] at h
  obtain ⟨⟨⟨⟨⟨hver, hlo⟩, hhi⟩, hreason⟩, hhdrs⟩, hframe⟩ := h
  have hall : ∀ e ∈ headers, headerOk noCl e = true := List.all_eq_true.mp hhdrs
  have hTE0 : headers.any (fun e => lower e.1 == b "transfer-encoding") = false := by
    rw [List.any_eq_false]
    intro e he
    have := (headerOk_entry (hall e he)).2.1
    rw [lowerB_eq] at this
    simpa [b_te] using this
  rw [buildResponse_eq _ _ _ _ _ _ _ hTE0]
  obtain ⟨a, bb, c, hdec, ha, hb, hc, hval⟩ := natToDec3 status.toNat (by omega) (by omega)
  have hint : intToDec status = [a, bb, c] := by
    unfold intToDec; rw [if_neg (by omega)]; exact hdec
  obtain ⟨hHok, hteAbs, hcl, hclose⟩ := finalHeaders_facts headers body connClose noCl hall
  obtain ⟨v, hvd, rfl⟩ : ∃ v, isDigit v = true ∧ version = [72, 84, 84, 80, 47, 49, 46, v] := by
    simp only [Bool.or_eq_true, beq_iff_eq] at hver
    rcases hver with h | h
    · exact ⟨49, by decide, by rw [h]; rfl⟩
    · exact ⟨48, by decide, by rw [h]; rfl⟩
  have hframing := framing_core ctx status.toNat _ (body.getD []) connClose noCl hteAbs hcl hclose
    (by simpa only [Bool.and_eq_true, decide_eq_true_eq] using hframe)
  obtain ⟨hsl, hno13⟩ := statusLine_render v a bb c reason hvd ha hb hc hreason
  rw [hint]
  exact wf_of_parts ctx _ status.toNat _ _ hno13 (hval ▸ hsl) (by omega) hHok hframing

end Px.Wf

import PxModel.Connect
import PxProofs.C14Lemmas
import PxProofs.ParserLoop
/-!
# C14 — the proxy connects to exactly the host and port the request-target names

Models: `PxModel/Url.lean` (`Url.from_bytes`, `Url._parse`), `PxModel/Parser.lean`
(`_process_line`, `_set_line_attributes`), `PxModel/Connect.lean`
(`connect_upstream`, `new_socket_connection`, first-request path of the handler,
and the specification side `Target` / `renderT` / `Target.wf`), tied to /repo by
`harness/c14.py`.

Findings visible in the statements:
* D8b — port 0 (`C14_port_zero`), userinfo without exactly one colon
  (`C14_reject_userinfo_no_colon`), `int()` leniency (`C14_port_lenient_witnesses`);
* D8c (fixed by dbfef2b) — userinfo in front of a port-less IPv6 literal is inside
  `Target.wf` (`C14_roundtrip_userinfo_v6_noport`).
-/
namespace Px.Connect
open Px Px.Url Px.UrlL

def Target.WF (allowed : List Bytes) (t : Target) : Prop := t.wf allowed = true

instance (allowed : List Bytes) (t : Target) : Decidable (t.WF allowed) := by
  unfold Target.WF; infer_instance

/-- the `Url` the target denotes -/
def Target.expected (t : Target) : Url :=
  match t.form with
  | .origin => { remainder := some t.pathq }
  | .absolute =>
    { scheme := some t.scheme, username := t.userinfo.map (·.1), password := t.userinfo.map (·.2),
      hostname := some t.host.text, port := t.port.map Int.ofNat,
      remainder := if t.pathq.isEmpty then none else some t.pathq }
  | .authority =>
    { username := t.userinfo.map (·.1), password := t.userinfo.map (·.2),
      hostname := some t.host.text, port := t.port.map Int.ofNat }

theorem renderAuthority_no_slash (t : Target) (hu : userinfoWf t.userinfo = true) (hw : t.host.wf = true) :
    SLASH ∉ renderAuthority t ∧ renderAuthority t ≠ [] := by
  have hf := Host.wf_facts t.host hw
  have hps := renderPort_not_mem t.port (c := SLASH) (by decide)
  unfold renderAuthority
  constructor
  · cases hui : t.userinfo with
    | none => simp [renderUserinfo, hf.noSlash, hps]
    | some up =>
      obtain ⟨u, p⟩ := up
      rw [hui] at hu
      obtain ⟨h5, h6⟩ := userinfoWf_not_mem hu (c := SLASH) (by simp)
      simp only [renderUserinfo, List.mem_append, List.mem_singleton, not_or]
      exact ⟨⟨⟨⟨⟨h5, by decide⟩, h6⟩, by decide⟩, hf.noSlash⟩, hps⟩
  · intro e
    simp only [List.append_eq_nil_iff] at e
    exact hf.ne_nil e.1.2

theorem Target.WF.host_port {allowed : List Bytes} {t : Target} (h : t.WF allowed) (hf : t.form ≠ .origin) :
    t.host.wf = true ∧ t.expected.hostname = some t.host.text ∧ t.expected.port = t.port.map Int.ofNat := by
  unfold Target.WF Target.wf at h
  unfold Target.expected
  cases hfm : t.form with
  | origin => exact absurd hfm hf
  | absolute => simp only [hfm, Bool.and_eq_true] at h; exact ⟨h.1.1.2, rfl, rfl⟩
  | authority => simp only [hfm, Bool.and_eq_true] at h; exact ⟨h.1.2, rfl, rfl⟩

theorem C14_roundtrip (allowed : List Bytes) (t : Target) (h : t.WF allowed) :
    fromBytes allowed (renderT t) = .ok t.expected := by
  unfold Target.WF Target.wf at h
  unfold renderT Target.expected
  cases hf : t.form with
  | origin =>
    simp only [hf, Bool.and_eq_true, beq_iff_eq, bne_iff_ne, ne_eq] at h ⊢
    obtain ⟨cs, hp⟩ := List.head?_eq_some_iff.1 h.1
    rw [hp] at h ⊢
    exact fromBytes_origin allowed cs h.2
  | absolute =>
    simp only [hf, Bool.and_eq_true, Bool.or_eq_true, beq_iff_eq] at h ⊢
    obtain ⟨⟨⟨⟨⟨hal, hsc⟩, hu⟩, hw⟩, hp⟩, hpq⟩ := h
    obtain ⟨hs, _⟩ := renderAuthority_no_slash t hu hw
    exact (fromBytes_absolute allowed t.scheme (renderAuthority t) t.pathq hal
      (noneOf_not_mem hsc (by simp)) (noneOf_not_mem hsc (by simp)) hs (hpq.imp_left List.isEmpty_iff.1)).trans
      (congrArg (mkUrl _ _) (parseAuthority_wf _ _ _ hu hw hp))
  | authority =>
    simp only [hf, Bool.and_eq_true] at h ⊢
    obtain ⟨⟨hu, hw⟩, hp⟩ := h
    obtain ⟨hs, hne⟩ := renderAuthority_no_slash t hu hw
    exact (fromBytes_authority allowed _ hne hs).trans (congrArg (mkUrl _ _) (parseAuthority_wf _ _ _ hu hw hp))

/-- **Finding D8c (fixed by dbfef2b).**  Userinfo in front of a port-less IPv6 literal:
the fallback of `Url._parse` ("treat entire data as host") takes the authority WITHOUT
the userinfo, so the host is the bracketed literal and no port is derived. -/
theorem C14_roundtrip_userinfo_v6_noport (u p t : Bytes) (hu : userinfoWf (some (u, p)) = true)
    (ht : (Host.ipv6 t).wf = true) :
    parseAuthority (u ++ COLON :: p ++ AT :: ([LBR] ++ t ++ [RBR])) =
      .ok (some u, some p, [LBR] ++ t ++ [RBR], none) := by
  have := parseAuthority_wf (some (u, p)) (.ipv6 t) none hu ht rfl
  simpa [renderUserinfo, renderPort, Host.text] using this

theorem connectUpstreamP_eq (pool : Bool) (host : Option Bytes) (port : Option Int) :
    connectUpstreamP pool host port = connectUpstream host port := by
  unfold connectUpstreamP connectUpstream
  cases host <;> cases port <;> simp

theorem connectUpstream_some {h : Bytes} {p : Int} (hne : h ≠ []) (hp : p ≠ 0) (hu : utf8Valid h = true) :
    connectUpstream (some h) (some p) = .ok ⟨stripBrackets h, p⟩ := by
  simp only [connectUpstream, List.isEmpty_eq_false_iff.2 hne, Bool.false_or, beq_iff_eq, hp, if_false, hu,
    Bool.not_true, Bool.false_eq_true]

theorem connectUpstream_ok {host : Option Bytes} {port : Option Int} {a : Addr}
    (h : connectUpstream host port = .ok a) :
    ∃ hst, host = some hst ∧ hst ≠ [] ∧ a.host = stripBrackets hst ∧ port = some a.port ∧ a.port ≠ 0 := by
  unfold connectUpstream at h
  split at h
  · rename_i hst pt
    split at h
    · cases h
    · rename_i hc
      split at h
      · cases h
      · cases h
        simp only [Bool.or_eq_true, List.isEmpty_iff, beq_iff_eq, not_or] at hc
        exact ⟨hst, rfl, hc.1, rfl, rfl, hc.2⟩
  · cases h

theorem handleFirst_of_parseAll {cfg : Px.Parser.Cfg} {pool : Bool} {segs : List Bytes} {p : Px.Parser.Parser}
    (h : Px.Parser.parseAll cfg (Px.Parser.init .request) segs = .ok p) :
    handleFirst cfg pool segs =
      if p.state != .complete then .incomplete
      else match handlerProtocol p with
        | some true =>
          match connectUpstream p.host p.port with
          | .error .httpProtocol => .closeSilent
          | .error .unicodeError => .reject502
          | .ok a => .connected a p.isTunnel (forwardLine p)
        | _ => .reject400 := by
  unfold handleFirst
  rw [h]
  dsimp only
  rw [connectUpstreamP_eq]
  cases pool <;> rfl

/-- port derived by `_set_line_attributes` for a target with port field `port` -/
def derivedPort (cfg : Px.Parser.Cfg) (tunnel : Bool) (port : Option Nat) : Int :=
  match port with
  | some n => Int.ofNat n
  | none => if tunnel then 443 else Int.ofNat cfg.defaultHttpPort

/-- **C14 defaults.**  Without an explicit port: 443 for CONNECT, `DEFAULT_HTTP_PORT` otherwise.
`hg`: a non-tunnel request does not name port 0 (see `C14_port_zero`). -/
theorem C14_defaults (cfg : Px.Parser.Cfg) (p : Px.Parser.Parser) (u : Url) (port : Option Nat)
    (hu : u.port = port.map Int.ofNat) (hg : p.isTunnel = false → port ≠ some 0) :
    (Px.Parser.setLineAttributes cfg p u).host = u.hostname ∧
    (Px.Parser.setLineAttributes cfg p u).path = u.remainder ∧
    (Px.Parser.setLineAttributes cfg p u).port = some (derivedPort cfg p.isTunnel port) ∧
    (Px.Parser.setLineAttributes cfg p u).isTunnel = p.isTunnel := by
  unfold Px.Parser.setLineAttributes derivedPort
  cases ht : p.isTunnel with
  | true =>
    simp only [if_true, hu]
    cases port <;> simp
  | false =>
    simp only [Bool.false_eq_true, if_false, hu]
    cases port with
    | none => simp
    | some n =>
      have : n ≠ 0 := fun e => hg ht (by rw [e])
      simp [this]

/-- `DEFAULT_HTTP_PORT` of the code under check is 80 (generated constant) -/
theorem C14_default_port_literals :
    ({} : Px.Parser.Cfg).defaultHttpPort = 80 ∧
    derivedPort {} false none = 80 ∧ derivedPort {} true none = 443 := by decide

/-- **Port 0 (finding D8b).**  `http://h:0/`: `port if port else DEFAULT_HTTP_PORT`
turns the explicit port 0 into the default port (the request is sent to port 80);
`CONNECT h:0`: the port stays 0 and `connect_upstream` makes no connect attempt at
all (`if host and port` is falsy → `HttpProtocolException`, connection dropped
without a response). -/
theorem C14_port_zero (cfg : Px.Parser.Cfg) (p : Px.Parser.Parser) (u : Url) (hu : u.port = some 0) :
    (p.isTunnel = false →
      (Px.Parser.setLineAttributes cfg p u).port = some (Int.ofNat cfg.defaultHttpPort)) ∧
    (p.isTunnel = true →
      (Px.Parser.setLineAttributes cfg p u).port = some 0 ∧
      ∀ pool, connectUpstreamP pool (Px.Parser.setLineAttributes cfg p u).host
        (Px.Parser.setLineAttributes cfg p u).port = .error .httpProtocol) := by
  unfold Px.Parser.setLineAttributes
  constructor
  · intro ht; simp [ht, hu]
  · intro ht
    simp only [ht, if_true, hu, Option.getD_some, true_and]
    intro pool
    rw [connectUpstreamP_eq]
    unfold connectUpstream
    cases u.hostname <;> simp

/-- **C14 connect address.**  The address handed to the socket layer is (host WITHOUT
brackets, derived port) in both branches of `connect_upstream`: as arguments of
`TcpServerConnection` (default) and as the key of `upstream_conn_pool.acquire`
(`--enable-conn-pool`), whose new connection is opened to that same key. -/
theorem C14_connect_addr (cfg : Px.Parser.Cfg) (p : Px.Parser.Parser) (t : Target)
    (h : t.WF cfg.allowedSchemes) (hf : t.form ≠ .origin)
    (hd : cfg.defaultHttpPort ≠ 0) (hg : t.port ≠ some 0) :
    let q := Px.Parser.setLineAttributes cfg p t.expected
    ∀ pool, connectUpstreamP pool q.host q.port = .ok ⟨t.host.bare, derivedPort cfg p.isTunnel t.port⟩ ∧
      poolAcquire ⟨t.host.bare, derivedPort cfg p.isTunnel t.port⟩ = ⟨t.host.bare, derivedPort cfg p.isTunnel t.port⟩ := by
  intro q pool
  refine ⟨?_, rfl⟩
  rw [connectUpstreamP_eq]
  obtain ⟨hw, hhost, hport⟩ := h.host_port hf
  obtain ⟨hq1, _, hq3, _⟩ := C14_defaults cfg p t.expected t.port hport (fun _ => hg)
  have hf := Host.wf_facts t.host hw
  have hp0 : derivedPort cfg p.isTunnel t.port ≠ 0 := by
    unfold derivedPort
    cases hpt : t.port with
    | none =>
      cases p.isTunnel
      · exact fun e => hd (Int.ofNat_eq_zero.1 e)
      · simp
    | some n => exact fun e => hg (by rw [hpt, Int.ofNat_eq_zero.1 e])
  show connectUpstream q.host q.port = _
  rw [hq1, hq3, hhost, connectUpstream_some hf.ne_nil hp0 hf.utf8, hf.bare]

/-- **C14 dispatch.**  Whatever route `new_socket_connection` takes, the OS-level
call carries exactly the address it was given. -/
theorem C14_dispatch (isV4 isV6 : Bytes → Bool) (a : Addr) (src : Option (Bytes × Int)) :
    (newSocketConnection isV4 isV6 a src).host = a.host ∧
    (newSocketConnection isV4 isV6 a src).port = a.port ∧
    (isV4 a.host = true → newSocketConnection isV4 isV6 a src = .inet a.host a.port) ∧
    (isV4 a.host = false → isV6 a.host = true → newSocketConnection isV4 isV6 a src = .inet6 a.host a.port 0 0) ∧
    (isV4 a.host = false → isV6 a.host = false → newSocketConnection isV4 isV6 a src = .name a.host a.port src) := by
  unfold newSocketConnection
  cases isV4 a.host <;> cases isV6 a.host <;> simp [Route.host, Route.port]

theorem processLine_request (cfg : Px.Parser.Cfg) (p : Px.Parser.Parser) (m u v rest : Bytes)
    (hty : p.ty = .request) (hne : m ≠ []) (hm : SP ∉ m) (hu : SP ∉ u)
    (hlf : ∀ c ∈ m ++ SP :: (u ++ SP :: v), c ≠ LF) :
    Px.Parser.processLine cfg p (m ++ SP :: (u ++ SP :: v) ++ CRLF ++ rest) =
      match fromBytes cfg.allowedSchemes u with
      | .error e => .error (Px.Parser.urlErr e)
      | .ok url =>
        .ok ({ Px.Parser.setLineAttributes cfg
                { p with method := some m, isTunnel := p.isTunnel || m == cfg.connectMethod } url with
               version := some v, state := .lineRcvd }, !rest.isEmpty, rest) := by
  unfold Px.Parser.processLine
  rw [splitCRLF_render (splitCRLF_none_of_noLF hlf) rest]
  simp only [splitN1_three SP m u v hm hu]
  rw [hty]
  simp only [List.isEmpty_eq_false_iff.2 hne]
  rfl

/-- **C14 request line.**  The parser's host keeps the brackets of an IPv6 literal;
`hg` is the port-0 guard of `C14_defaults`. -/
theorem C14_request_line (cfg : Px.Parser.Cfg) (m v rest : Bytes) (t : Target)
    (h : t.WF cfg.allowedSchemes) (hne : m ≠ []) (hm : SP ∉ m) (hu : SP ∉ renderT t)
    (hlf : ∀ c ∈ m ++ SP :: (renderT t ++ SP :: v), c ≠ LF)
    (hg : (m == cfg.connectMethod) = false → t.port ≠ some 0) :
    ∃ q, Px.Parser.processLine cfg (Px.Parser.init .request) (m ++ SP :: (renderT t ++ SP :: v) ++ CRLF ++ rest)
        = .ok (q, !rest.isEmpty, rest) ∧
      q.method = some m ∧ q.version = some v ∧ q.url = some t.expected ∧
      q.host = t.expected.hostname ∧ q.path = t.expected.remainder ∧
      q.isTunnel = (m == cfg.connectMethod) ∧
      q.port = some (match t.expected.port with
        | some v => v
        | none => if m == cfg.connectMethod then 443 else Int.ofNat cfg.defaultHttpPort) := by
  rw [processLine_request cfg _ m _ v rest rfl hne hm hu hlf, C14_roundtrip _ t h]
  refine ⟨_, rfl, ?_⟩
  simp only [Px.Parser.init, Bool.false_or]
  unfold Px.Parser.setLineAttributes
  cases hc : (m == cfg.connectMethod) with
  | true =>
    simp only [if_true, true_and]
    cases t.expected.port <;> simp
  | false =>
    simp only [Bool.false_eq_true, if_false, true_and]
    have hg' := hg hc
    have hp : t.expected.port = none ∨ t.expected.port = t.port.map Int.ofNat := by
      unfold Target.expected; cases t.form <;> simp
    rcases hp with hp | hp
    · rw [hp]
    · rw [hp]
      cases hpt : t.port with
      | none => simp
      | some n =>
        have : n ≠ 0 := fun e => hg' (by rw [hpt, e])
        simp [this]

theorem Target.WF_drop_userinfo (allowed : List Bytes) (t : Target) (h : t.WF allowed) :
    ({ t with userinfo := none } : Target).WF allowed := by
  unfold Target.WF Target.wf at h ⊢
  cases hf : t.form with
  | origin => simpa [hf] using h
  | absolute =>
    simp only [hf, Bool.and_eq_true] at h ⊢
    obtain ⟨⟨⟨⟨⟨hal, hsc⟩, hu⟩, hw⟩, hp⟩, hpq⟩ := h
    exact ⟨⟨⟨⟨⟨hal, hsc⟩, rfl⟩, hw⟩, hp⟩, hpq⟩
  | authority =>
    simp only [hf, Bool.and_eq_true] at h ⊢
    obtain ⟨⟨hu, hw⟩, hp⟩ := h
    exact ⟨⟨rfl, hw⟩, hp⟩

/-- **C14 userinfo.**  `user:pass@` in front of the host is reported as
username / password and changes neither host, port nor path. -/
theorem C14_userinfo (allowed : List Bytes) (t : Target) (h : t.WF allowed) :
    ∃ u u', fromBytes allowed (renderT t) = .ok u ∧
      fromBytes allowed (renderT { t with userinfo := none }) = .ok u' ∧
      u.hostname = u'.hostname ∧ u.port = u'.port ∧ u.remainder = u'.remainder ∧ u.scheme = u'.scheme ∧
      (t.form ≠ .origin → u.username = t.userinfo.map (·.1) ∧ u.password = t.userinfo.map (·.2)) := by
  refine ⟨_, _, C14_roundtrip allowed t h, C14_roundtrip allowed _ (Target.WF_drop_userinfo allowed t h), ?_⟩
  unfold Target.expected
  cases hf : t.form <;> simp

/-- **C14 reject: userinfo without exactly one colon.**  `user@host`, `a@b@c`
(text before the FIRST `@` has no colon), `u:p:q@host`: `Url._parse` raises
`ValueError`, so the request ends as 400 (`C14_reject_no_connect`).
RFC 3986 allows userinfo without a colon: part of finding D8b. -/
theorem C14_reject_userinfo_no_colon (allowed : List Bytes) (scheme ui hp pathq : Bytes)
    (hal : allowed.contains scheme = true) (hsc : COLON ∉ scheme) (hss : SLASH ∉ scheme)
    (hat : AT ∉ ui) (hc : ui.count COLON ≠ 1) (hs1 : SLASH ∉ ui) (hs2 : SLASH ∉ hp)
    (hp' : pathq = [] ∨ pathq.head? = some SLASH) :
    fromBytes allowed (scheme ++ b "://" ++ (ui ++ AT :: hp) ++ pathq) = .error .valueError ∧
    fromBytes allowed (ui ++ AT :: hp) = .error .valueError := by
  have hs : SLASH ∉ ui ++ AT :: hp := by
    simp only [List.mem_append, List.mem_cons, not_or]; exact ⟨hs1, by decide, hs2⟩
  constructor
  · rw [fromBytes_absolute allowed scheme _ pathq hal hsc hss hs hp', parseAuthority_bad_userinfo ui hp hat hc]; rfl
  · rw [fromBytes_authority allowed _ (by simp) hs, parseAuthority_bad_userinfo ui hp hat hc]; rfl

theorem C14_reject_two_at (x y z : Bytes) (h1 : AT ∉ x) (h2 : COLON ∉ x) :
    parseAuthority (x ++ AT :: (y ++ AT :: z)) = .error .valueError :=
  parseAuthority_bad_userinfo x _ h1 (by rw [List.count_eq_zero_of_not_mem h2]; decide)

/-- **C14 reject ⇒ no connect.**  Whatever `Url.from_bytes` raises on the target of the
first request line (`ValueError`, `IndexError`, invalid scheme), the handler answers 400
and tears the connection down. -/
theorem C14_reject_no_connect (cfg : Px.Parser.Cfg) (m u v rest : Bytes) (e : Px.Url.Err)
    (hne : m ≠ []) (hm : SP ∉ m) (hu : SP ∉ u) (hlf : ∀ c ∈ m ++ SP :: (u ++ SP :: v), c ≠ LF)
    (he : fromBytes cfg.allowedSchemes u = .error e) (pool : Bool) :
    handleFirst cfg pool [m ++ SP :: (u ++ SP :: v) ++ CRLF ++ rest] = .reject400 := by
  have hlen : (m ++ SP :: (u ++ SP :: v) ++ CRLF ++ rest).length > 0 := by simp [CRLF]; omega
  have hpar : Px.Parser.parse cfg (Px.Parser.init .request) (m ++ SP :: (u ++ SP :: v) ++ CRLF ++ rest) =
      .error (Px.Parser.urlErr e) := by
    unfold Px.Parser.parse
    simp only [Px.Parser.init, hlen, decide_true]
    rw [Px.Parser.loop_succ cfg _ (by simp), Px.Parser.stepOnce_eq, Px.Parser.core_line _ rfl,
      processLine_request cfg _ m u v rest rfl hne hm hu hlf, he]
    rfl
  unfold handleFirst Px.Parser.parseAll
  rw [hpar]

theorem C14_connect_only_parsed (cfg : Px.Parser.Cfg) (pool : Bool) (segs : List Bytes) (a : Addr) (tn : Bool)
    (line : Bytes) (h : handleFirst cfg pool segs = .connected a tn line) :
    ∃ p hst, Px.Parser.parseAll cfg (Px.Parser.init .request) segs = .ok p ∧
      p.host = some hst ∧ hst ≠ [] ∧ a.host = stripBrackets hst ∧ p.port = some a.port ∧ a.port ≠ 0 := by
  cases hp : Px.Parser.parseAll cfg (Px.Parser.init .request) segs with
  | error e => unfold handleFirst at h; rw [hp] at h; cases h
  | ok p =>
    rw [handleFirst_of_parseAll hp] at h
    split at h
    · cases h
    · split at h
      · split at h
        · cases h
        · cases h
        · rename_i hc
          cases h
          obtain ⟨hst, h1, h2, h3, h4, h5⟩ := connectUpstream_ok hc
          exact ⟨p, hst, rfl, h1, h2, h3, h4, h5⟩
      · cases h

/-- **C14 no mis-routing (authority).**  No grammar is assumed of `a`.  `hp` is the part
of `a` after its first `@` (all of `a` when there is none): nothing of the userinfo can
end up in the host (fix dbfef2b).  The brackets stripped from `h` may be ones `Url._parse` added. -/
theorem C14_no_misrouting_authority (a : Bytes) {u p : Option Bytes} {h : Bytes} {port : Option Int}
    (e : parseAuthority a = .ok (u, p, h, port)) :
    ∃ hp, hp <:+ a ∧ (AT ∉ a → hp = a) ∧ (∀ ui r, a = ui ++ AT :: r → AT ∉ ui → hp = r) ∧
      stripBrackets h <:+: hp ∧
      (∀ v, port = some v → ∃ pre s, hp = pre ++ COLON :: s ∧ COLON ∉ s ∧ pyInt 10 s = some v) := by
  rw [parseAuthority_eq] at e
  split at e
  · rename_i hs
    have hn := (splitOnce1_none_iff AT a).1 hs
    obtain ⟨h1, h2⟩ := hostPort_substring a a none none e
    refine ⟨a, List.suffix_refl a, fun _ => rfl, ?_, h1, h2⟩
    intro ui r ha _; exact absurd (by rw [ha]; simp) hn
  · rename_i ui hp hs
    obtain ⟨hx, hui⟩ := (splitOnce1_some_iff AT a ui hp).1 hs
    split at e
    · obtain ⟨h1, h2⟩ := hostPort_substring a hp _ _ e
      refine ⟨hp, ⟨ui ++ [AT], by rw [hx]; simp⟩, fun hn => absurd (by rw [hx]; simp) hn, ?_, h1, h2⟩
      intro ui' r ha hui'
      have := (splitOnce1_some_iff AT a ui' r).2 ⟨ha, hui'⟩
      rw [hs] at this; simp at this; exact this.2
    · simp at e

/-- **C14 no mis-routing.**  No grammar is assumed of `x`: nothing the target does not
literally contain can become the destination.  `a` is `x` itself, or the text between
`scheme://` (or a leading `//`) and the next `/`. -/
theorem C14_no_misrouting (allowed : List Bytes) (x : Bytes) {u : Url} {h : Bytes}
    (e : fromBytes allowed x = .ok u) (hh : u.hostname = some h) :
    ∃ pre a post, x = pre ++ a ++ post ∧
      ((pre = [] ∧ post = []) ∨
       ((pre = b "//" ∨ ∃ s, pre = s ++ b "://") ∧ SLASH ∉ a ∧ (post = [] ∨ post.head? = some SLASH))) ∧
      stripBrackets h <:+: a ∧ stripBrackets h <:+: x ∧
      (∀ v, u.port = some v → ∃ pre' s, a = pre' ++ COLON :: s ∧ COLON ∉ s ∧ s <:+: x ∧ pyInt 10 s = some v) := by
  obtain ⟨pre, a, post, hx, hpa, hshape⟩ := fromBytes_authority_piece allowed x e hh
  obtain ⟨hp, ⟨q, hq⟩, _, _, h1, h2⟩ := C14_no_misrouting_authority a hpa
  have hax : a <:+: x := ⟨pre, post, hx.symm⟩
  have hpa' : hp <:+: a := ⟨q, [], by simp [hq]⟩
  refine ⟨pre, a, post, hx, hshape, h1.trans hpa', (h1.trans hpa').trans hax, ?_⟩
  intro v hv
  obtain ⟨pre', s, ha, hs, hi⟩ := h2 v hv
  refine ⟨q ++ pre', s, by rw [← hq, ha]; simp, hs, ?_, hi⟩
  exact (List.IsInfix.trans ⟨q ++ pre' ++ [COLON], [], by rw [← hq, ha]; simp⟩ hax)

/-- **port text guard.**  Leading zeros are allowed; `intMaxStrDigits` is CPython's limit of 4300 digits. -/
theorem C14_port_text (raw : Bytes) (u p : Option Bytes) (h ds : Bytes) (hc : COLON ∉ h)
    (hne : ds ≠ []) (hd : ∀ c ∈ ds, isDig c = true) (hl : ds.length ≤ intMaxStrDigits) :
    hostPort raw u p (h ++ COLON :: ds) = .ok (u, p, h, some (Int.ofNat (decVal ds))) :=
  hostPort_plain_port raw u p h ds _ hc (digits_not_mem hd COLON (by decide)) (pyInt_of_isDig ds hne hd hl)

def errOf {α : Type} : Except Px.Url.Err α → Option Px.Url.Err
  | .error e => some e
  | .ok _ => none

/-- **`int()` leniency (for DESIGN §5 / D8b).**  Outside the digits-only guard the
real code (and the model) still accept: a sign, single underscores between digits,
surrounding whitespace, non-canonical zeros — all meaning "the obvious number";
an empty port, `0x50` and a negative sign are handled as shown. -/
theorem C14_port_lenient_witnesses :
    pyInt 10 (b "+80") = some 80 ∧ pyInt 10 (b "8_0") = some 80 ∧ pyInt 10 (b " 80 ") = some 80 ∧
    pyInt 10 (b "080") = some 80 ∧ pyInt 10 (b "-80") = some (-80) ∧
    pyInt 10 (b "") = none ∧ pyInt 10 (b "0x50") = none ∧ pyInt 10 (b "8__0") = none ∧
    (fromBytes Px.Gen.defaultAllowedUrlSchemes (b "http://h:+8_0/")).toOption =
      some { scheme := some (b "http"), hostname := some (b "h"), port := some 80, remainder := some (b "/") } ∧
    errOf (fromBytes Px.Gen.defaultAllowedUrlSchemes (b "http://h:/")) = some .valueError := by
  repeat rw [b_ofList]
  decide +kernel

/-! ## non-vacuity: every hypothesis above has a non-trivial inhabitant -/

section Examples
open Px.Gen (defaultAllowedUrlSchemes)

/-- origin-form with a query that itself contains `://` -/
example : ({ form := .origin, host := .regName [], pathq := b "/a/b?u=http://o/" } : Target).WF defaultAllowedUrlSchemes := by
  repeat rw [b_ofList]
  decide +kernel
def exT1 : Target :=
  { form := .absolute, userinfo := some (b "user", b "p%40ss"), host := .ipv6 (b "2001:DB8::a"), port := some 8080,
    pathq := b "/x;y?z=[1]" }
example : exT1.WF defaultAllowedUrlSchemes := by
  unfold exT1
  repeat rw [b_ofList]
  decide +kernel
example : ({ form := .absolute, scheme := b "https", host := .regName (b "bücher.example") } : Target).WF
    defaultAllowedUrlSchemes := by
  repeat rw [b_ofList]
  decide +kernel
def exT2 : Target := { form := .authority, host := .ipv6 (b "::ffff:1.2.3.4") }
example : exT2.WF defaultAllowedUrlSchemes := by
  unfold exT2
  repeat rw [b_ofList]
  decide +kernel
example : ({ form := .authority, host := .ipv4 (b "127.0.0.1"), port := some 65535 } : Target).WF
    defaultAllowedUrlSchemes := by
  repeat rw [b_ofList]
  decide +kernel
example : (fromBytes defaultAllowedUrlSchemes (b "http://user:p%40ss@[2001:DB8::a]:8080/x;y?z=[1]")).toOption =
    some exT1.expected := by
  unfold exT1
  repeat rw [b_ofList]
  decide +kernel

/-- `C14_request_line`: method, target and version without SP / LF; the port-0 guard -/
example : SP ∉ b "GET" ∧ SP ∉ renderT exT1 ∧
    (∀ c ∈ b "GET" ++ SP :: (renderT exT1 ++ SP :: b "HTTP/1.1"), c ≠ LF) ∧
    ((b "GET" == ({} : Px.Parser.Cfg).connectMethod) = false → exT1.port ≠ some 0) := by decide +kernel
example : SP ∉ b "CONNECT" ∧ SP ∉ renderT exT2 ∧
    ((b "CONNECT" == ({} : Px.Parser.Cfg).connectMethod) = true) := by decide +kernel

/-- `C14_defaults` / `C14_connect_addr`: guards -/
example : ({} : Px.Parser.Cfg).defaultHttpPort ≠ 0 ∧ exT1.form ≠ .origin ∧ exT1.port ≠ some 0 ∧
    exT1.expected.port = exT1.port.map Int.ofNat := by decide +kernel
/-- `C14_port_zero`: a URL with port 0 is what `http://h:0/` parses to -/
example : ((fromBytes defaultAllowedUrlSchemes (b "http://h:0/")).toOption.map (·.port)) = some (some 0) := by
  repeat rw [b_ofList]
  decide +kernel

/-- `C14_roundtrip_userinfo_v6_noport` hypotheses; the target is inside the grammar -/
example : userinfoWf (some (b "u", b "p")) = true ∧ (Host.ipv6 (b "::1")).wf = true := by
  repeat rw [b_ofList]
  decide +kernel
example : ({ form := .absolute, userinfo := some (b "u", b "p"), host := .ipv6 (b "::1"), pathq := b "/x" } : Target).WF
    defaultAllowedUrlSchemes := by
  repeat rw [b_ofList]
  decide +kernel
example : ((fromBytes defaultAllowedUrlSchemes (b "http://u:p@[::1]/x")).toOption.map (·.hostname)) =
    some (some (b "[::1]")) := by
  repeat rw [b_ofList]
  decide +kernel
example : handleFirst {} false [b "CONNECT u:p@[::1] HTTP/1.1\r\n\r\n"] =
    .connected ⟨b "::1", 443⟩ true (b "CONNECT / HTTP/1.1") := by
  repeat rw [b_ofList]
  decide +kernel
/-- a host that is not UTF-8 is answered with 502 (e5b7001), never connected -/
example : handleFirst {} false [b "GET http://h" ++ [0xff] ++ b "/ HTTP/1.1\r\n\r\n"] = .reject502 := by
  repeat rw [b_ofList]
  decide +kernel

example : fromBytes defaultAllowedUrlSchemes (b "http" ++ b "://" ++ (b "user" ++ AT :: b "h") ++ b "/") =
    .error .valueError :=
  (C14_reject_userinfo_no_colon defaultAllowedUrlSchemes (b "http") (b "user") (b "h") (b "/")
    (by decide +kernel) (by decide +kernel) (by decide +kernel) (by decide +kernel) (by decide +kernel)
    (by decide +kernel) (by decide +kernel) (by decide +kernel)).1
/-- `C14_reject_two_at`: `a@b@c` -/
example : AT ∉ b "a" ∧ COLON ∉ b "a" := by decide +kernel
/-- `C14_reject_no_connect`: a target on which `from_bytes` raises -/
example : errOf (fromBytes ({} : Px.Parser.Cfg).allowedSchemes (b "ftp://h/")) = some .httpProtocol ∧
    errOf (fromBytes ({} : Px.Parser.Cfg).allowedSchemes (b "http://h:x/")) = some .valueError := by
  repeat rw [b_ofList]
  decide +kernel

/-- `C14_connect_only_parsed`: requests that do connect (model evaluated by the kernel) -/
example : handleFirst {} false [b "GET http://[::1]:8080/x HTTP/1.1\r\nHost: x\r\n\r\n"] =
    .connected ⟨b "::1", 8080⟩ false (b "GET /x HTTP/1.1") := by
  repeat rw [b_ofList]
  decide +kernel
example : handleFirst {} false [b "CONNECT example.com HTTP/1.1\r\n\r\n"] =
    .connected ⟨b "example.com", 443⟩ true (b "CONNECT / HTTP/1.1") := by
  repeat rw [b_ofList]
  decide +kernel
/-- … and the two port-0 behaviours of finding D8b, end to end in the model -/
example : handleFirst {} false [b "GET http://h:0/ HTTP/1.1\r\n\r\n"] =
    .connected ⟨b "h", 80⟩ false (b "GET / HTTP/1.1") := by
  repeat rw [b_ofList]
  decide +kernel
example : handleFirst {} false [b "CONNECT h:0 HTTP/1.1\r\n\r\n"] = .closeSilent := by
  repeat rw [b_ofList]
  decide +kernel
/-- with `--enable-conn-pool`: the pool key (and hence the connect) is the bare IPv6 address -/
example : handleFirst {} true [b "GET http://[::1]:8080/x HTTP/1.1\r\nHost: x\r\n\r\n"] =
    .connected ⟨b "::1", 8080⟩ false (b "GET /x HTTP/1.1") := by
  repeat rw [b_ofList]
  decide +kernel

/-- `C14_no_misrouting`: an accepted target OUTSIDE the grammar (unbracketed IPv6): the
last group is taken as the port and brackets are added — still pieces of the target -/
example : (fromBytes defaultAllowedUrlSchemes (b "http://::1/")).toOption =
    some { scheme := some (b "http"), hostname := some (b "[::]"), port := some 1, remainder := some (b "/") } := by
  repeat rw [b_ofList]
  decide +kernel

/-- `C14_port_text`: digits with leading zeros -/
example : COLON ∉ b "h" ∧ b "0080" ≠ [] ∧ (∀ c ∈ b "0080", isDig c = true) ∧
    (b "0080").length ≤ intMaxStrDigits ∧ decVal (b "0080") = 80 := by decide +kernel

end Examples

end Px.Connect

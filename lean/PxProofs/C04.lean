import PxProofs.PersistReq
import PxProofs.PersistWeb
import PxProofs.PersistRev
import PxProofs.Lit
/-!
# C04 — each request on a persistent connection is answered in order by the right origin

The model (`PxModel/Persist.lean`, over `Relay.lean`, `Parser.lean`, `Build.lean`, `Forward.lean`,
`Connect.lean`, `Reverse.lean`) is tied to `proxy/http/handler.py`, `proxy/http/proxy/server.py`,
`proxy/http/server/web.py`, `proxy/http/server/reverse.py`, `proxy/core/base/tcp_upstream.py` by the
correspondence check `harness/c04.py`.

## The full statement (NOT claimed)

`C04_full`: for every list of well-formed requests `r₁ … rₙ` sent on one client connection to
the forward proxy / web server / reverse proxy, for EVERY way of cutting the byte stream
`render r₁ ++ … ++ render rₙ` into TCP segments and every benign schedule, the i-th request is
handed — exactly once, in order — to the origin / route that `rᵢ` names, the client receives the
responses in request order, and the proxy does not tear the connection down.

It does not hold for the code as it is; `C04_witness_F2 … F4` exhibit, on the model
(kernel-evaluated), a concrete history for each of the three violated classes:

* F2 (finding D13b): a follow-up request naming another origin is written to the FIRST origin's connection;
* F3 (finding D13c): the web server hands every follow-up request to the FIRST request's route plugin;
* F4 (finding D12): the reverse proxy opens a new upstream connection per request and abandons the
  previous one (with whatever was not yet written to / read from it).

(F1, finding D13a, requests sharing a TCP segment lost: fixed by 84c574d; `C04_regression_F1*`
are its regression examples.)

## What is proved (partial)

The packing of requests into TCP segments is arbitrary in all three theorems: the hypothesis is
only that the segments the client socket delivers concatenate to `render r₁ ++ render r₂ ++ …`
(several requests per segment, requests split anywhere).

* `C04_partial_forward`: requests to one origin, every benign tick schedule.
  `C04_forward_relay` / `C04_forward_segments` are the same for arbitrary byte strings that parse
  as one request each (no grammar assumed).
* `C04_partial_web`: web server, keep-alive requests, all to the first request's route plugin.
* `C04_partial_reverse`: reverse proxy, routes answered by the plugin itself (literal responses).

Missing for the full statement: per-request origin selection (F2), per-request web routing (F3), a
persistent upstream connection per reverse-proxied client (F4).  Responses are relayed as a byte
stream (`C04_forward_relay`, last clause = C01): that each request gets exactly one response, in
request order, additionally rests on the origin answering the requests it reads in order on that
connection (assumption F5, stated in the harness).
-/
namespace Px.Persist
open Px Px.Relay Px.Parser

/-- **C04, forward proxy, segments.**  `FirstOk`: `x₁` is exactly one request that, as first request,
leads to a connect to `a` and to `q₁` queued; `LaterAll`: `tl` are byte strings that are exactly one
request each, forwarded as `qs`, none a protocol switch.  The application steps end established with
an idle pipeline parser. -/
theorem C04_forward_segments (cfg : Forward.Cfg) (ok : Bool) (x₁ : Bytes) (P₁ : Parser) (a : Connect.Addr)
    (q₁ : Bytes) (tl : Reqs) (qs : List Bytes) (h1 : FirstOk cfg ok x₁ P₁ a q₁) (hl : LaterAll cfg tl qs)
    (segs : List Bytes) (hne : ∀ seg ∈ segs, seg ≠ []) (hflat : segs.flatten = x₁ ++ stream tl) :
    ∃ req, segRun cfg ok (.first (init .request)) segs = some (.http req none, q₁ ++ qs.flatten, [a]) :=
  segRun_stream cfg ok x₁ P₁ a q₁ tl qs h1 hl segs hne hflat

theorem clientSegs_ne (ticks : List Tick) : ∀ seg ∈ clientSegs ticks, seg ≠ [] := by
  intro seg hs
  obtain ⟨t, _, ht⟩ := List.mem_filterMap.1 hs
  split at ht
  · exact segOf_ne_nil ht
  · cases ht

/-- **C04, forward proxy, connection level.**  The same, for the whole connection under every
benign tick schedule (`benign`: no peer closes, no `send`/`recv` fails; any readiness subset, any
partial write, upstream data at any time) whose client reads deliver that stream in any packing.
Last clause: C01. -/
theorem C04_forward_relay (cfg : Forward.Cfg) (m : Nat) (x₁ : Bytes) (P₁ : Parser) (a : Connect.Addr)
    (q₁ : Bytes) (tl : Reqs) (qs : List Bytes) (h1 : FirstOk cfg true x₁ P₁ a q₁) (hl : LaterAll cfg tl qs)
    (ticks : List Tick) (hb : ∀ t ∈ ticks, benign t = true)
    (hsegs : (clientSegs ticks).flatten = x₁ ++ stream tl) :
    (frun cfg true (finit m) ticks).2 = .cont ∧
    (∃ req, (frun cfg true (finit m) ticks).1.phase = .http req none) ∧
    (frun cfg true (finit m) ticks).1.rs.sentU ++ (frun cfg true (finit m) ticks).1.rs.upstream.buffer.flatten
      = q₁ ++ qs.flatten ∧
    (frun cfg true (finit m) ticks).1.connects = [a] ∧
    (frun cfg true (finit m) ticks).1.rs.sentC ++ (frun cfg true (finit m) ticks).1.rs.client.buffer.flatten
      = (frun cfg true (finit m) ticks).1.rs.recvU := by
  obtain ⟨req, hs⟩ := C04_forward_segments cfg true x₁ P₁ a q₁ tl qs h1 hl (clientSegs ticks) (clientSegs_ne ticks) hsegs
  have r := frun_refines cfg true ticks (finit m) (finit_phaseOk m) (finit_alive m) rfl hb (.http req none)
    (q₁ ++ qs.flatten) [a] hs
  refine ⟨r.cont, ⟨req, r.phase⟩, ?_, r.connects, r.down⟩
  have := r.up; rw [finit_U] at this; simpa [U] using this

def originOf (r : Forward.Req) : Option (Bytes × Option Bytes) :=
  match r.target with
  | .absolute host port _ => some (host, port)
  | .origin _ => none

def hostOf (r : Forward.Req) : Option Bytes := (originOf r).map (·.1)

/-- **C04 (forward proxy), partial.**  Well-formed absolute-form requests (C02's `Req.WF`: any method
but CONNECT, any fields with unique names, no body / Content-Length / chunked in any layout), the
follow-ups not protocol switches and naming `r₁`'s origin (host and port), in any packing, under
every benign tick schedule: no teardown; one connect, to the host every request names; written to +
queued for that upstream is, by C02, the forward form of each request in order (first with Via,
later without — finding D10v); last clause: C01. -/
theorem C04_partial_forward (cfg : Forward.Cfg) (hcfg : Forward.CfgOk cfg) (m : Nat)
    (r₁ : Forward.Req) (rs : List Forward.Req)
    (hwf : ∀ r ∈ r₁ :: rs, r.WF ∧ r.isAbsolute = true)
    (hnu : ∀ r ∈ rs, notUpgrade r = true) (hsame : ∀ r ∈ rs, originOf r = originOf r₁)
    (ticks : List Tick) (hb : ∀ t ∈ ticks, benign t = true)
    (hsegs : (clientSegs ticks).flatten = Forward.render r₁ ++ (rs.map Forward.render).flatten) :
    ∃ (a : Connect.Addr),
      (frun cfg true (finit m) ticks).2 = .cont ∧
      (∃ req, (frun cfg true (finit m) ticks).1.phase = .http req none) ∧
      (frun cfg true (finit m) ticks).1.rs.sentU ++ (frun cfg true (finit m) ticks).1.rs.upstream.buffer.flatten
        = Forward.render (Forward.fwdImpl true cfg r₁) ++
            (rs.map (fun r => Forward.render (Forward.fwdImpl false cfg r))).flatten ∧
      (frun cfg true (finit m) ticks).1.connects = [a] ∧
      (∀ r ∈ r₁ :: rs, ∃ host, hostOf r = some host ∧ a.host = Connect.stripBrackets host) ∧
      (frun cfg true (finit m) ticks).1.rs.sentC ++ (frun cfg true (finit m) ticks).1.rs.client.buffer.flatten
        = (frun cfg true (finit m) ticks).1.rs.recvU := by
  obtain ⟨host, port, pq, ht⟩ := absolute_of_isAbsolute (hwf r₁ (by simp)).2
  obtain ⟨P₁, v, h1⟩ := firstOk_render cfg hcfg r₁ (hwf r₁ (by simp)).1 ht
  obtain ⟨tl, etl, hl⟩ := laterAll_render cfg hcfg rs
    (fun r hr => ⟨(hwf r (by simp [hr])).1, (hwf r (by simp [hr])).2, hnu r hr⟩)
  obtain ⟨c1, c2, c3, c4, c5⟩ := C04_forward_relay cfg m (Forward.render r₁) P₁ _ _ tl _ h1 hl ticks hb
    (by rw [hsegs, stream, etl])
  refine ⟨_, c1, c2, c3, c4, ?_, c5⟩
  have h0 : hostOf r₁ = some host := by simp [hostOf, originOf, ht]
  intro r hr
  rcases List.mem_cons.1 hr with rfl | hr
  · exact ⟨host, h0, rfl⟩
  · exact ⟨host, by unfold hostOf; rw [hsame r hr]; exact h0, rfl⟩

/-- **C04 (web server), partial.**  `x₁` is exactly one web-server request whose path selects route
plugin `k` (`_try_route`), `tl` are exactly one request each, all HTTP/1.1 keep-alive, their paths
selecting plugin `k` as well, in any packing: `handle_request` is invoked exactly once per request,
in order, on the plugin the request's path names and with exactly that request (`Ps'`: the one-piece
parses, as data — `norm` sets the byte counter and the leftover buffer aside); its answers are
queued for the client in that order; the connection stays routed (not closed). -/
theorem C04_partial_web (cfg : WCfg) (x₁ : Bytes) (P₁ : Parser) (k : Nat) (tl : Reqs)
    (h1 : WebFirstOk cfg x₁ P₁ k) (hl : WebLaterAll tl) (hroute : ∀ r ∈ tl, tryRoute cfg (webPath r.2) = some k)
    (segs : List Bytes) (hne : ∀ seg ∈ segs, seg ≠ []) (hflat : segs.flatten = x₁ ++ stream tl) :
    ∃ Ps' : List Parser, Ps'.map norm = (P₁ :: tl.map (·.2)).map norm ∧
      (wrun cfg ({}, none) segs).1.calls = Ps'.map (fun P => ((tryRoute cfg (webPath P)).getD 0, P)) ∧
      (wrun cfg ({}, none) segs).1.out = Ps'.map (fun P => cfg.respond ((tryRoute cfg (webPath P)).getD 0) P) ∧
      (wrun cfg ({}, none) segs).1.phase = .routed ∧ (wrun cfg ({}, none) segs).2 = none := by
  have hd := wrun_stream cfg x₁ P₁ k tl h1 hl segs hne hflat
  obtain ⟨Ps', hn, hc, ho⟩ := hd.ex
  have hk : ∀ P' ∈ Ps', tryRoute cfg (webPath P') = some k := by
    intro P' hP'
    obtain ⟨P, hP, e⟩ := List.mem_map.1 (hn ▸ List.mem_map_of_mem (f := norm) hP')
    -- `webPath` does not look at what `norm` sets aside
    have hw : webPath P' = webPath P :=
      show webPath (norm P') = webPath (norm P) from congrArg webPath e.symm
    rw [hw]
    rcases List.mem_cons.1 hP with rfl | hP
    · exact h1.2.2.2.2.1
    · obtain ⟨r, hr, rfl⟩ := List.mem_map.1 hP
      exact hroute r hr
  refine ⟨Ps', hn, ?_, ?_, hd.routed, hd.idle⟩
  · rw [hc]; exact List.map_congr_left (fun P hP => by rw [hk P hP]; rfl)
  · rw [ho]; exact List.map_congr_left (fun P hP => by rw [hk P hP]; rfl)

/-- **C04 (reverse proxy), partial.**  Requests all of whose matching routes are answered by the
plugin itself (`handle_route` returns a literal response), HTTP/1.1 keep-alive, in EVERY packing:
one `ReverseProxy.handle_request` per request, the answers are queued for the client in request
order, no upstream connection is opened, the connection stays open. -/
theorem C04_partial_reverse (cfg : RCfg) (x₁ : Bytes) (P₁ : Parser) (tl : Reqs)
    (h1 : RevFirstOk cfg x₁ P₁) (hl : ∀ r ∈ tl, RevLaterOk cfg r)
    (segs : List Bytes) (hne : ∀ seg ∈ segs, seg ≠ []) (hflat : segs.flatten = x₁ ++ stream tl) :
    let s := rrun cfg ({}, none) (segs.map .cseg)
    s.1.rv.client.buffer = revAnswer cfg true P₁ ++ (tl.map (fun r => revAnswer cfg false r.2)).flatten ∧
    s.1.handled = 1 + tl.length ∧ s.1.rv.connects = [] ∧ s.1.rv.upstream = none ∧ s.1.phase = .routed ∧
    s.2 = none := by
  have hd := rrun_stream cfg x₁ P₁ tl h1 hl segs hne hflat
  exact ⟨hd.answers, hd.handled, hd.connects, hd.upstream, hd.routed, hd.idle⟩

def reqA (n : Nat) : Bytes :=
  b "GET http://a.example/" ++ natToDec n ++ b " HTTP/1.1\r\nHost: a.example\r\n\r\n"
def reqB : Bytes := b "GET http://b.example/1 HTTP/1.1\r\nHost: b.example\r\n\r\n"
def fwdA (first : Bool) (n : Nat) : Bytes :=
  b "GET /" ++ natToDec n ++ b " HTTP/1.1\r\nHost: a.example\r\n" ++
    (if first then b "Via: 1.1 " ++ Px.Gen.proxyAgentHeaderValue ++ CRLF else []) ++ CRLF

/-- the client socket delivers `x`; nothing else is ready -/
def tickC (x : Bytes) : Tick := ⟨true, false, false, false, .data x, .sslWantRead, .blocking, .blocking, .raised⟩
/-- the upstream socket is writable and accepts everything -/
def tickUW : Tick := ⟨false, false, false, true, .sslWantRead, .sslWantRead, .blocking, .sent 1000000, .raised⟩

/-- bytes the first request's parser keeps and nobody reads again -/
def Phase.leftover : Phase → Option Bytes
  | .http req _ => req.buffer
  | _ => none

def Phase.pipe : Phase → Option Parser
  | .http _ pl => pl
  | _ => none

/-- **Regression example for F1 (finding D13a, fixed): two requests in one segment.**  Both are
forwarded, in order; nothing is left in `request.buffer`. -/
theorem C04_regression_F1 :
    let r := frun {} true (finit 0) [tickC (reqA 1 ++ reqA 2), tickUW, tickUW]
    r.2 = .cont ∧ r.1.rs.sentU = fwdA true 1 ++ fwdA false 2 ∧ r.1.rs.upstream.buffer = [] ∧
    r.1.phase.leftover = none ∧ r.1.phase.pipe = none ∧
    ([tickC (reqA 1 ++ reqA 2), tickUW, tickUW].all benign) = true := by
  -- the literals as lists of characters first: the kernel pays per byte for every `b "…"` it meets
  unfold reqA fwdA
  repeat rw [b_ofList]
  decide +kernel

theorem C04_regression_F1_followup :
    let r := frun {} true (finit 0) [tickC (reqA 1), tickUW, tickC (reqA 2 ++ reqA 3), tickUW, tickUW, tickUW]
    r.2 = .cont ∧ r.1.rs.sentU = fwdA true 1 ++ fwdA false 2 ++ fwdA false 3 ∧ r.1.rs.upstream.buffer = [] ∧
    r.1.phase.leftover = none ∧ r.1.phase.pipe = none := by
  unfold reqA fwdA
  repeat rw [b_ofList]
  decide +kernel

theorem C04_regression_F1_split :
    let r := frun {} true (finit 0) [tickC (reqA 1 ++ (reqA 2).take 10), tickUW, tickC ((reqA 2).drop 10), tickUW, tickUW]
    r.2 = .cont ∧ r.1.rs.sentU = fwdA true 1 ++ fwdA false 2 ∧ r.1.phase.pipe = none := by
  unfold reqA fwdA
  repeat rw [b_ofList]
  decide +kernel

/-- **F2 (D13b): a follow-up request naming another origin.**  There is one connect, to
`a.example:80`, and the request for `b.example` is written to that connection. -/
theorem C04_witness_F2 :
    let r := frun {} true (finit 0) [tickC (reqA 1), tickUW, tickC reqB, tickUW]
    r.2 = .cont ∧ r.1.connects = [⟨b "a.example", 80⟩] ∧
    r.1.rs.sentU = fwdA true 1 ++ b "GET /1 HTTP/1.1\r\nHost: b.example\r\n\r\n" := by
  unfold reqA reqB fwdA
  repeat rw [b_ofList]
  decide +kernel

/-- two route plugins: plugin 0 serves `/a`, plugin 1 serves `/b`; an answer names its plugin -/
def webCfg2 : WCfg :=
  { routes := [(0, 0), (1, 1)]
    matchPat := fun path i => (i == 0 && path == b "/a") || (i == 1 && path == b "/b")
    respond := fun k _ => [UInt8.ofNat (48 + k)] }

def webReq (path : String) : Bytes := b "GET " ++ b path ++ b " HTTP/1.1\r\nHost: x\r\nConnection: keep-alive\r\n\r\n"

/-- **F3 (D13c): web server follow-ups go to the first request's route.**  `GET /a` then `GET /b`:
`/b` selects plugin 1, but both requests are handed to plugin 0 and answered by it. -/
theorem C04_witness_F3 :
    let s := (wrun webCfg2 ({}, none) [webReq "/a", webReq "/b"]).1
    s.calls.map (·.1) = [0, 0] ∧ s.calls.map (·.2.path) = [some (b "/a"), some (b "/b")] ∧
    s.out = [[48], [48]] ∧ tryRoute webCfg2 (b "/b") = some 1 := by
  unfold webReq webCfg2
  repeat rw [b_ofList]
  decide +kernel

def revCfg1 : RCfg :=
  { table := [[.static 0 [b "http://ua.example:9001/x"]]]
    matchPat := fun path i => i == 0 && path == b "/a" }

def revFwd : Bytes := b "GET /x HTTP/1.1\r\nHost: x\r\nConnection: keep-alive\r\n\r\n"

/-- **F4 (D12): reverse proxy keep-alive.**  Two `GET /a` on one connection, each flushed to its
upstream; then the origin behind the FIRST upstream connection answers.  There were two connects,
`self.upstream` is the second connection, each connection was written one request — and the first
origin's answer is never relayed (only `self.upstream` is read): the client gets nothing for
request 1.  (On the real executor the replaced socket is closed by reference counting and its
descriptor number reused, which ends in a torn-down or stalled connection: harness oracle.) -/
theorem C04_witness_F4 :
    let st := rrun revCfg1 ({}, none) [.cseg (webReq "/a"), .uflush, .cseg (webReq "/a"), .uflush, .useg 0 (b "HTTP/1.1 200 OK\r\n\r\n")]
    let s := st.1
    s.rv.connects = [(b "ua.example", 9001), (b "ua.example", 9001)] ∧ s.current = some 1 ∧
    s.wrote = [revFwd, revFwd] ∧ s.handled = 2 ∧ s.rv.client.buffer = [] ∧
    (rstep revCfg1 st (.useg 1 (b "R2"))).1.rv.client.buffer = [b "R2"] := by
  unfold webReq revCfg1 revFwd
  repeat rw [b_ofList]
  decide +kernel

/-- `FirstOk` for some parse, address and forward form, as a test that can be evaluated -/
theorem firstOk_of_eval {cfg : Forward.Cfg} {ok : Bool} {x : Bytes}
    (h : (match oneReq x with
      | some P => (match firstComplete cfg ok P with | .established _ _ => true | _ => false)
      | none => false) = true) : ∃ P a q, FirstOk cfg ok x P a q := by
  cases hP : oneReq x with
  | none => simp [hP] at h
  | some P =>
    cases hf : firstComplete cfg ok P <;> simp [hP, hf] at h
    exact ⟨P, _, _, hP, hf⟩

/-- `GET http://example.com/<c> HTTP/1.1` with a Host field; `POST http://example.com/p` chunked -/
def exR (c : UInt8) : Forward.Req :=
  { method := [71, 69, 84]
    target := .absolute [101, 120, 97, 109, 112, 108, 101, 46, 99, 111, 109] none [47, c]
    version := Px.Gen.http11
    fields := [⟨[72, 111, 115, 116], [32], [101, 120, 97, 109, 112, 108, 101, 46, 99, 111, 109], []⟩]
    body := []
    framing := .none }

def exPost : Forward.Req :=
  { method := [80, 79, 83, 84]
    target := .absolute [101, 120, 97, 109, 112, 108, 101, 46, 99, 111, 109] none [47, 112]
    version := Px.Gen.http11
    fields := [⟨[72, 111, 115, 116], [32], [101, 120, 97, 109, 112, 108, 101, 46, 99, 111, 109], []⟩,
      ⟨[84, 114, 97, 110, 115, 102, 101, 114, 45, 69, 110, 99, 111, 100, 105, 110, 103], [32], [99, 104, 117, 110, 107, 101, 100], []⟩]
    body := [104, 105]
    framing := .chunked [⟨[50], [], [104, 105]⟩] [48] [] }

example : (exR 49).WF ∧ (exR 50).WF ∧ exPost.WF := by decide +kernel
example : ∀ r ∈ [exR 50, exPost], notUpgrade r = true ∧ originOf r = originOf (exR 49) ∧ r.isAbsolute = true := by
  decide +kernel
example : Forward.CfgOk {} := by decide +kernel
example :
    let x := Forward.render (exR 49) ++ (Forward.render (exR 50) ++ Forward.render exPost)
    [x.take 60, x.drop 60].flatten = Forward.render (exR 49) ++ ([exR 50, exPost].map Forward.render).flatten ∧
    (Forward.render (exR 49)).length < 60 ∧ ∀ seg ∈ [x.take 60, x.drop 60], seg ≠ [] := by
  decide +kernel
example : ([tickC [1], tickUW, ⟨true, true, true, true, .data [2], .data [9, 9], .sent 1, .sslWantWrite, .raised⟩].all benign) = true ∧
    clientSegs [tickC [1], tickUW, ⟨true, true, true, true, .data [2], .data [9, 9], .sent 1, .sslWantWrite, .raised⟩] = [[1], [2]] := by
  decide +kernel
example : ∃ P a q, FirstOk {} true (reqA 1) P a q :=
  firstOk_of_eval (by
    conv in reqA 1 => unfold reqA; repeat rw [b_ofList]
    decide +kernel)
example : (match oneReq (reqA 2) with
    | some P => (match Forward.buildFor {} (Forward.treatLater {} P) with | .ok q => q == fwdA false 2 | _ => false) &&
        !isUpgrade (Forward.treatLater {} P)
    | none => false) = true := by
  conv in reqA 2 => unfold reqA; repeat rw [b_ofList]
  conv in fwdA false 2 => unfold fwdA; repeat rw [b_ofList]
  decide +kernel
example : (match oneReq (webReq "/a") with
    | some P => isWebRequest P && !isWebsocketUpgrade P && Px.Url.utf8Valid (webPath P) &&
        (tryRoute webCfg2 (webPath P) == some 0) && isKeepAlive P
    | none => false) = true := by
  conv in webReq "/a" => unfold webReq; repeat rw [b_ofList]
  decide +kernel
def revCfgLit : RCfg :=
  { table := [[.dynamic 0 (.literal (b "HTTP/1.1 200 OK\r\nContent-Length: 2\r\n\r\nok"))]]
    matchPat := fun path i => i == 0 && path == b "/h" }
example : (match oneReq (webReq "/h") with
    | some P => isWebRequest P && !isWebsocketUpgrade P && P.path.isSome && Px.Url.utf8Valid (webPath P) &&
        Px.Reverse.anyMatch (revCfgLit.matchPat (webPath P)) revCfgLit.table &&
        litOnly (revCfgLit.matchPat (webPath P)) revCfgLit.table && litOnly (revCfgLit.matchPat (revPath P)) revCfgLit.table &&
        isKeepAlive P
    | none => false) = true := by
  conv in webReq "/h" => unfold webReq; repeat rw [b_ofList]
  decide +kernel

end Px.Persist

import PxModel.ExecRemote
import PxProofs.ExecLemmas
/-! The raw descriptors a remote executor owns (`PxModel/ExecRemote.lean`) are the ids of its live works,
each once (`RInv`), across arrivals and clean-ups. -/
namespace Px.Exec
open Px.Sel

def RInv (x : RExec) : Prop := x.raw.Nodup ∧ ∀ f, f ∈ x.raw ↔ f ∈ x.ex.works

theorem cleanupR_inv (x y : RExec) (w : WorkId) (sd : Shutdown) (hi : RInv x)
    (h : cleanupR x w sd = .ok y) : RInv y ∧ w ∉ y.raw ∧ y.raw = x.raw.erase w := by
  unfold cleanupR at h
  split at h
  · cases h
  next y' hc =>
    injection h with h; subst h
    have hwk := (cleanup_spec hc).works
    refine ⟨⟨hi.1.erase w, ?_⟩, ?_, rfl⟩
    · intro f
      simp only [hwk, List.mem_filter, decide_eq_true_eq, hi.1.mem_erase_iff, hi.2 f]
      exact and_comm
    · simp only [hi.1.mem_erase_iff]; intro hh; exact hh.1 rfl

theorem acceptR_inv (x y : RExec) (a : Arrive) (sd : Shutdown) (hi : RInv x) (hnew : a.fd ∉ x.ex.works)
    (h : acceptR x a sd = .ok y) :
    RInv y ∧ (a.initRaises = true → y.raw = x.raw) ∧ (a.initRaises = false → y.raw = a.fd :: x.raw) := by
  unfold acceptR at h
  split at h
  · cases h
  next y' hc =>
    injection h with h; subst h
    rw [accept_eq] at hc
    have hm := mem_addWork x.ex a.fd
    cases hr : a.initRaises with
    | false =>
      simp only [hr, Bool.false_eq_true, if_false, Except.ok.injEq] at hc ⊢
      subst hc
      refine ⟨⟨List.nodup_cons.2 ⟨fun hh => hnew ((hi.2 _).1 hh), hi.1⟩, fun f => ?_⟩, by simp, by simp⟩
      rw [List.mem_cons, hm, hi.2 f, Or.comm]
    | true =>
      simp only [hr, if_true] at hc ⊢
      refine ⟨⟨hi.1, fun f => ?_⟩, by simp, by simp⟩
      rw [(cleanup_spec hc).works, List.mem_filter, hm, hi.2 f, decide_eq_true_eq]
      exact ⟨fun hf => ⟨Or.inl hf, fun e => hnew (e ▸ hf)⟩, fun hf => hf.1.resolve_right hf.2⟩

/-- arrivals never reuse the id of a work that is still alive (C05's `ArriveOk` asks this only of an
    arrival whose `initialize()` raises) -/
def ROpsOk : RExec → List ROp → Prop
  | _, [] => True
  | x, o :: r =>
    (match o with | .arrive a _ => a.fd ∉ x.ex.works | .clean _ _ => True) ∧
    ∀ y, stepR x o = .ok y → ROpsOk y r

theorem runR_inv : ∀ (ops : List ROp) (x y : RExec), RInv x → ROpsOk x ops → runR x ops = .ok y → RInv y := by
  intro ops
  induction ops with
  | nil => intro x y hi _ h; simp only [runR] at h; injection h with h; subst h; exact hi
  | cons o r ih =>
    intro x y hi hok h
    simp only [runR] at h
    split at h
    · cases h
    next x' hs =>
      have hi' : RInv x' := by
        cases o with
        | arrive a sd => exact (acceptR_inv x x' a sd hi hok.1 hs).1
        | clean w sd => exact (cleanupR_inv x x' w sd hi hs).1
      exact ih x' y hi' (hok.2 x' hs) h

end Px.Exec

import PxModel.Parser
import PxModel.Build
import PxProofs.BytesLemmas
import PxProofs.ParserInvariant
/-!
# Python dicts as association lists (C15)

`dSet` on the builders' `HDict` (name ↦ value) and `hdrSet` / `hdrGet` / `hdrDel` on the parser's header map
(lower-case key ↦ (name, value)): `d[k] = v` replaces the entry in place or appends it.  Membership in the
result, when the assignment only appends (so a dict filled with fresh keys is the list of what was put in:
`foldl_append_of_fresh`, `rebuildHeaders_none`), what a lookup then returns, and that keys stay distinct.
-/
namespace Px.Codec

open Px.Parser Px.Build

theorem dSet_of_not_mem (h : HDict) (k v : Bytes) (hk : ∀ e ∈ h, e.1 ≠ k) : dSet h k v = h ++ [(k, v)] :=
  if_neg fun ha => by
    obtain ⟨e, he, hek⟩ := List.any_eq_true.1 ha
    exact hk e he (bytes_beq.1 hek)

theorem mem_dSet {h : HDict} {k v : Bytes} {e : Bytes × Bytes} (he : e ∈ dSet h k v) :
    e = (k, v) ∨ (e ∈ h ∧ e.1 ≠ k) := by
  unfold dSet at he
  split at he
  · obtain ⟨a, ha, rfl⟩ := List.mem_map.1 he
    split
    · exact .inl rfl
    · rename_i hak; exact .inr ⟨ha, fun h => hak (bytes_beq.2 h)⟩
  · rename_i hn
    rcases List.mem_append.1 he with he | he
    · exact .inr ⟨he, fun hk => hn (List.any_eq_true.2 ⟨e, he, bytes_beq.2 hk⟩)⟩
    · exact .inl (List.mem_singleton.1 he)

theorem mem_dSet_self (h : HDict) (k v : Bytes) : (k, v) ∈ dSet h k v := by
  unfold dSet
  split
  · rename_i ha
    obtain ⟨a, ham, hak⟩ := List.any_eq_true.1 ha
    exact List.mem_map.2 ⟨a, ham, if_pos hak⟩
  · exact List.mem_append_right _ (List.mem_singleton.2 rfl)

theorem mem_dSet_of_mem {h : HDict} {k v : Bytes} {e : Bytes × Bytes} (he : e ∈ h) (hne : e.1 ≠ k) :
    e ∈ dSet h k v := by
  unfold dSet
  cases h.any (·.1 == k)
  · exact List.mem_append_left _ he
  · exact List.mem_map.2 ⟨e, he, if_neg fun hek => hne (bytes_beq.1 hek)⟩

/-- the builders' steps are conditional: `if c: d[k] = v` -/
theorem mem_ite_dSet {L : HDict} {c : Bool} {k v : Bytes} {e : Bytes × Bytes}
    (he : e ∈ (if c then dSet L k v else L)) : e ∈ L ∨ (c = true ∧ e = (k, v)) := by
  cases c
  · exact .inl he
  · exact (mem_dSet he).elim (fun h => .inr ⟨rfl, h⟩) (fun h => .inl h.1)

theorem mem_ite_dSet_of_mem {L : HDict} {c : Bool} {k v : Bytes} {e : Bytes × Bytes} (he : e ∈ L) (hne : e.1 ≠ k) :
    e ∈ (if c then dSet L k v else L) := by
  cases c
  · exact he
  · exact mem_dSet_of_mem he hne

theorem ite_dSet_fresh {L : HDict} {k : Bytes} (hk : ∀ e ∈ L, e.1 ≠ k) (c : Bool) (v : Bytes) :
    (if c then dSet L k v else L) = L ++ (if c then [(k, v)] else []) := by
  cases c
  · exact (List.append_nil L).symm
  · exact dSet_of_not_mem L k v hk

theorem dSet_eq_self (L : HDict) (k v : Bytes) (hm : (k, v) ∈ L) (hu : ∀ e ∈ L, e.1 = k → e = (k, v)) :
    dSet L k v = L := by
  unfold dSet
  rw [if_pos (List.any_eq_true.2 ⟨_, hm, bytes_beq_self k⟩)]
  refine (List.map_congr_left (fun e he => ?_)).trans (List.map_id' L)
  split
  · rename_i hk; exact (hu e he (bytes_beq.1 hk)).symm
  · rfl

theorem forall_mem_dSet {L : HDict} {k v : Bytes} {P : Bytes × Bytes → Prop} (hL : ∀ e ∈ L, P e) (hkv : P (k, v)) :
    ∀ e ∈ dSet L k v, P e :=
  fun e he => (mem_dSet he).elim (fun h => h ▸ hkv) (fun h => hL e h.1)

/-- a fold whose step appends `out x` whenever no entry of the accumulator has that key, run over
    elements with distinct keys none of which is in the accumulator yet, only appends
    (a Python dict filled with keys it does not have) -/
theorem foldl_append_of_fresh {α β κ : Type} (step : List β → α → List β) (out : α → β) (key : β → κ)
    (hstep : ∀ acc x, (∀ a ∈ acc, key a ≠ key (out x)) → step acc x = acc ++ [out x])
    (l : List α) (acc : List β) (hnd : (l.map (fun x => key (out x))).Nodup)
    (hacc : ∀ x ∈ l, ∀ a ∈ acc, key a ≠ key (out x)) :
    l.foldl step acc = acc ++ l.map out := by
  induction l generalizing acc with
  | nil => exact (List.append_nil _).symm
  | cons x t ih =>
    rw [List.map_cons, List.nodup_cons] at hnd
    rw [List.foldl_cons, hstep acc x (hacc x List.mem_cons_self), ih _ hnd.2, List.map_cons, List.append_assoc,
      List.singleton_append]
    intro y hy a ha
    rcases List.mem_append.1 ha with ha | ha
    · exact hacc y (List.mem_cons_of_mem _ hy) a ha
    · rw [List.mem_singleton.1 ha]
      exact fun heq => hnd.1 (List.mem_map.2 ⟨y, hy, heq.symm⟩)

/-- the dict comprehension of `HttpParser.build` (no Host override) on a map whose names are distinct: the
    `(name, value)` pairs of the entries whose key is not disabled, in order -/
theorem rebuildHeaders_none (h : Headers) (dis : List Bytes) (hd : (h.map (·.2.1)).Nodup) :
    rebuildHeaders h dis none = (h.filter (fun e => !dis.contains (lower e.1))).map (·.2) := by
  -- skipping the disabled keys = folding over the kept entries; their names are new, so every `dSet` appends
  have hskip : rebuildHeaders h dis none =
      (h.filter (fun e => !dis.contains (lower e.1))).foldl (fun acc e => dSet acc e.2.1 e.2.2) [] := by
    rw [List.foldl_filter]
    refine congrArg (fun f => h.foldl f []) (funext fun acc => funext fun e => ?_)
    show (if dis.contains (lower e.1) = true then acc else dSet acc e.2.1 e.2.2) = _
    cases dis.contains (lower e.1) <;> rfl
  rw [hskip]
  exact (foldl_append_of_fresh _ (·.2) Prod.fst (fun acc e hf => dSet_of_not_mem acc _ _ hf) _ []
    (hd.sublist (List.filter_sublist.map _)) (fun _ _ _ ha => nomatch ha)).trans (List.nil_append _)

/-- names are distinct when their lower-cased forms, the keys, are -/
theorem nodup_names_of_keys {h : Headers} (hnd : (h.map (·.1)).Nodup) (hk : ∀ e ∈ h, e.1 = lower e.2.1) :
    (h.map (·.2.1)).Nodup := by
  rw [List.map_congr_left hk] at hnd
  have : ((h.map (·.2.1)).map lower).Nodup := by rw [List.map_map]; exact hnd
  exact this.of_map lower (fun _ _ hne heq => hne (heq ▸ rfl))

theorem hdrGet_nil (k : Bytes) : hdrGet [] k = none := rfl

theorem hdrGet_cons (a : Bytes × (Bytes × Bytes)) (t : Headers) (k : Bytes) :
    hdrGet (a :: t) k = if a.1 == k then some a.2 else hdrGet t k := by
  simp only [hdrGet, List.find?_cons]
  cases a.1 == k <;> rfl

theorem hdrGet_of_mem {h : Headers} (hnd : (h.map (·.1)).Nodup) {a : Bytes × (Bytes × Bytes)} (ha : a ∈ h) :
    hdrGet h a.1 = some a.2 := by
  induction h with
  | nil => cases ha
  | cons c t ih =>
    rw [List.map_cons, List.nodup_cons] at hnd
    rw [hdrGet_cons]
    rcases List.mem_cons.1 ha with rfl | ha
    · rw [if_pos (bytes_beq_self _)]
    · rw [if_neg (fun hc => hnd.1 (List.mem_map.2 ⟨a, ha, (bytes_beq.1 hc).symm⟩))]
      exact ih hnd.2 ha

theorem hdrGet_some_mem {h : Headers} {k : Bytes} {x : Bytes × Bytes} (hg : hdrGet h k = some x) :
    (k, x) ∈ h := by
  induction h with
  | nil => cases hg
  | cons a t ih =>
    rw [hdrGet_cons] at hg
    by_cases hk : (a.1 == k) = true
    · rw [if_pos hk] at hg
      rw [← bytes_beq.1 hk, ← Option.some.inj hg]
      exact List.mem_cons_self
    · rw [if_neg hk] at hg
      exact List.mem_cons_of_mem _ (ih hg)

theorem hdrGet_none_of_no_key (h : Headers) (k : Bytes) (hk : h.any (·.1 == k) = false) : hdrGet h k = none := by
  rw [← Option.not_isSome_iff_eq_none, ← any_iff_hdrGet, hk]; decide

theorem mem_hdrSet {h : Headers} {k : Bytes} {x : Bytes × Bytes} {a : Bytes × (Bytes × Bytes)} :
    a ∈ hdrSet h k x ↔ a = (k, x) ∨ (a ∈ h ∧ a.1 ≠ k) := by
  unfold hdrSet
  split
  · rename_i hany
    obtain ⟨c, hc, hck⟩ := List.any_eq_true.1 hany
    rw [List.mem_map]
    constructor
    · rintro ⟨e, he, rfl⟩
      by_cases hk : (e.1 == k) = true
      · exact .inl (if_pos hk)
      · rw [if_neg hk]; exact .inr ⟨he, fun h => hk (bytes_beq.2 h)⟩
    · rintro (rfl | ⟨ha, hne⟩)
      · exact ⟨c, hc, if_pos hck⟩
      · exact ⟨a, ha, if_neg (fun h => hne (bytes_beq.1 h))⟩
  · rename_i hany
    rw [List.mem_append, List.mem_singleton]
    constructor
    · rintro (ha | rfl)
      · exact .inr ⟨ha, fun hk => hany (List.any_eq_true.2 ⟨a, ha, bytes_beq.2 hk⟩)⟩
      · exact .inl rfl
    · rintro (rfl | ⟨ha, -⟩)
      · exact .inr rfl
      · exact .inl ha

theorem hdrSet_of_no_key (h : Headers) (k : Bytes) (x : Bytes × Bytes) (hk : ∀ e ∈ h, e.1 ≠ k) :
    hdrSet h k x = h ++ [(k, x)] := by
  rw [hdrSet, List.any_eq_false.2 (fun e he h => hk e he (bytes_beq.1 h)), if_neg Bool.false_ne_true]

theorem hdrDel_of_no_key (h : Headers) (k : Bytes) (hk : h.any (·.1 == k) = false) : hdrDel h k = h :=
  List.filter_eq_self.2 (fun a ha => by
    rw [bne, Bool.not_eq_true', Bool.eq_false_iff]; exact List.any_eq_false.1 hk a ha)

theorem delHeader_eq (p : Parser) (k : Bytes) :
    delHeader p k = { p with headers := p.headers.map (fun h => hdrDel h (lower k)) } := by
  unfold delHeader
  rcases hh : p.headers with _ | _ | ⟨a, t⟩
  · show p = { p with headers := none }
    rw [← hh]
  · show p = { p with headers := some [] }
    rw [← hh]
  · rfl

theorem nodup_keys_hdrSet {h : Headers} (hnd : (h.map (·.1)).Nodup) (k : Bytes) (x : Bytes × Bytes) :
    ((hdrSet h k x).map (·.1)).Nodup := by
  unfold hdrSet
  split
  · rw [List.map_map, List.map_congr_left (g := (·.1))]
    · exact hnd
    · intro a _
      show (if (a.1 == k) = true then (k, x) else a).1 = a.1
      split
      · rename_i hk; exact (bytes_beq.1 hk).symm
      · rfl
  · rename_i hno
    rw [List.map_append, List.nodup_append]
    refine ⟨hnd, List.pairwise_singleton _ _, fun a ha c hc hac => hno ?_⟩
    obtain ⟨e, he, rfl⟩ := List.mem_map.1 ha
    exact List.any_eq_true.2 ⟨e, he, by rw [hac, List.mem_singleton.1 hc]; exact bytes_beq_self _⟩

theorem hdrGet_append_single (h : Headers) (k k' : Bytes) (x : Bytes × Bytes) :
    hdrGet (h ++ [(k, x)]) k' = (hdrGet h k').or (if k = k' then some x else none) := by
  induction h with
  | nil =>
    rw [List.nil_append, hdrGet_cons, hdrGet_nil]
    cases hkk : k == k' with
    | true => rw [if_pos rfl, if_pos (bytes_beq.1 hkk)]; rfl
    | false => rw [if_neg Bool.false_ne_true, if_neg (bytes_beq_false.1 hkk)]; rfl
  | cons a t ih => rw [List.cons_append, hdrGet_cons, hdrGet_cons, ih]; split <;> rfl

end Px.Codec

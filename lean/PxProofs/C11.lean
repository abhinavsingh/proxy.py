import PxModel.Intercept
import PxProofs.InterceptLemmas
import PxProofs.InterceptRelayLemmas
import PxProofs.Lit
/-!
# C11 — TLS interception issues a valid per-host cert and never trusts a bad upstream

The model (`PxModel/Intercept.lean`, `PxModel/Pki.lean`) is tied to `proxy/http/proxy/server.py`,
`proxy/core/connection/{server,client}.py` and `proxy/common/pki.py` by the
correspondence check `harness/c11.py`, which performs real TLS handshakes.

What is decided here is the DECISION LOGIC and the DATA FLOW.  OpenSSL — the
handshakes, X.509 path and name validation, record protection, and what the
`openssl` CLI does with an argv — is a parameter (`Env.handshake`,
`Env.clientWrap`, `Env.cmd`) and is trusted; so is `ipaddress.ip_address` (`Env.isIp`).  In that sense the slice is
**partial**; see `C11_property_partial` for the full statement and what is missing.
-/
namespace Px.Intercept
open Px Px.Pki Px.Relay

/-- **C11 chain semantics** of `_tls_intercept_enabled`: the four CA flags (`cfg.enabled`), then the
`do_intercept` answers, where the first `False` ends the loop and wins. -/
theorem C11_chain_semantics (cfg : Cfg) (answers : List (Option Bool)) :
    (tlsInterceptEnabled cfg answers).1 = true ↔
      cfg.enabled = true ∧ some false ∉ answers ∧ answers.getLast?.getD (some true) = some true := by
  unfold tlsInterceptEnabled
  by_cases he : cfg.enabled = true
  · simp only [he, Bool.not_true, Bool.false_eq_true, if_false, true_and]
    rw [isTrue_iff, chainAux_val]
    by_cases hf : some false ∈ answers <;> simp [hf]
  · simp [he]

theorem C11_chain_asks (cfg : Cfg) (answers : List (Option Bool)) :
    ∀ e ∈ (tlsInterceptEnabled cfg answers).2, e.isAsk = true := tlsInterceptEnabled_asks cfg answers

/-- **C11 opt-out is opaque.**  The CONNECT is acknowledged and nothing else happens;
`on_request_complete` returns `False` (`.plain`) and the relay continues from `Relay.initTunnel`,
the state the C01 tunnel theorems (bytes relayed verbatim, in order, both ways) start from. -/
theorem C11_optout_opaque (cfg : Cfg) (answers : List (Option Bool)) (env : Env) (host : Str) (maxSend : Nat)
    (h : some false ∈ answers ∨ cfg.enabled = false) :
    let r := onConnect cfg answers env host
    r.2.res = .plain ∧ r.2.clientTls = false ∧ r.2.upstreamTls = false ∧ r.2.fs = env.fs ∧
    (∀ e ∈ r.1, e = .queueClient ack ∨ e.isAsk = true) ∧
    relayState cfg answers maxSend r.2 = some (Relay.initTunnel maxSend) := by
  have hd : (tlsInterceptEnabled cfg answers).1 = false :=
    Bool.eq_false_iff.2 fun hv =>
      have ⟨hen, hno, _⟩ := (C11_chain_semantics cfg answers).1 hv
      h.elim hno (by rw [hen]; nofun)
  dsimp only
  rw [onConnect_off cfg answers env host hd]
  refine ⟨rfl, rfl, rfl, rfl, fun e he => ?_, ?_⟩
  · exact (List.mem_cons.1 he).imp_right (tlsInterceptEnabled_asks cfg answers e)
  · simp [relayState, relayKind, hd, Relay.initTunnel, Relay.ack, ack]

/-- **C11 order.**  The upstream is wrapped (handshake + verification) before any cache probe,
openssl invocation or client-side wrap: a refused upstream never gets a leaf minted. -/
theorem C11_order (cfg : Cfg) (answers : List (Option Bool)) (env : Env) (host : Str)
    (hon : (tlsInterceptEnabled cfg answers).1 = true) :
    ∃ rest, (onConnect cfg answers env host).1 =
        .queueClient ack :: ((tlsInterceptEnabled cfg answers).2 ++
          .wrapUpstream (upstreamParams cfg host) (env.handshake (upstreamParams cfg host)) :: rest) ∧
      (∀ e ∈ rest, e.isGen = true) ∧
      (env.handshake (upstreamParams cfg host) ≠ .ok → rest = []) := by
  by_cases hh : env.handshake (upstreamParams cfg host) = .ok
  · refine ⟨(wrapClient cfg env host).1, ?_, wrapClient_gen cfg env host, fun h => absurd hh h⟩
    rw [onConnect_ok cfg answers env host hon hh, hh]
  · exact ⟨[], by rw [onConnect_fail cfg answers env host hon hh], fun _ h => (List.not_mem_nil h).elim, fun _ => rfl⟩

/-- **C11 verification settings** of the upstream TLS context.  `server_hostname` is without the
brackets of an IPv6 literal so that OpenSSL matches the bare address against `iPAddress` entries;
`verifyNone` is `CERT_NONE` (`--insecure-tls-interception`), else `CERT_REQUIRED`; `caFile` is `--ca-file`. -/
theorem C11_verify_settings (cfg : Cfg) (host : Str) :
    (upstreamParams cfg host).serverHostname = some (stripBrackets host) ∧
    (upstreamParams cfg host).caFile = cfg.caFile ∧
    ((upstreamParams cfg host).verifyNone = true ↔ cfg.insecure = true) ∧
    ((upstreamParams cfg host).checkHostname = true ↔ cfg.insecure = false) := by
  unfold upstreamParams serverWrapParams
  cases cfg.insecure <;> simp

/-- the same at the level of `TcpServerConnection.wrap` -/
theorem C11_verify_settings_wrap (hostname caFile : Option Str) (verifyNone : Bool) :
    ((serverWrapParams hostname caFile verifyNone).checkHostname = true ↔
      verifyNone = false ∧ hostname.isSome = true) ∧
    (serverWrapParams hostname caFile verifyNone).verifyNone = verifyNone ∧
    (serverWrapParams hostname caFile verifyNone).serverHostname = hostname ∧
    (serverWrapParams hostname caFile verifyNone).caFile = caFile := by
  unfold serverWrapParams
  cases verifyNone <;> simp

theorem C11_verify_settings_log (cfg : Cfg) (answers : List (Option Bool)) (env : Env) (host : Str)
    (p : WrapParams) (out : HsOut) (h : Eff.wrapUpstream p out ∈ (onConnect cfg answers env host).1) :
    p = upstreamParams cfg host ∧ out = env.handshake p := by
  rcases mem_onConnect cfg answers env host _ h with h | h | ⟨_, h | ⟨_, h, _⟩⟩
  · cases h
  · cases h
  · cases h; exact ⟨rfl, rfl⟩
  · cases wrapClient_gen cfg env host _ h

/-- OpenSSL's contract as the code relies on it, with the X.509 verdict `verify` (on a certificate
situation, under the settings in force) as a parameter. -/
def opensslSpec {σ : Type} (verify : WrapParams → σ → Bool) (sit : σ) (p : WrapParams) : HsOut :=
  if p.verifyNone then .ok else if verify p sit then .ok else .certVerification

/-- **C11 no relay on a bad upstream (decision level).**  `on_request_complete` returns `True`
(teardown; no error response — the client has already been promised `200`); the upstream socket is
left detached (descriptor closed). -/
theorem C11_no_relay_on_bad_upstream_log (cfg : Cfg) (answers : List (Option Bool)) (env : Env) (host : Str)
    (hon : (tlsInterceptEnabled cfg answers).1 = true)
    (hbad : env.handshake (upstreamParams cfg host) = .certVerification ∨
            env.handshake (upstreamParams cfg host) = .sslError) :
    let r := onConnect cfg answers env host
    r.2.res = .teardown ∧ r.2.clientBuf = [ack] ∧ r.2.clientTls = false ∧ r.2.upstreamTls = false ∧
    r.2.upstreamDetached = true ∧ r.2.fs = env.fs ∧
    (∀ e ∈ r.1, e = .queueClient ack ∨ e.isAsk = true ∨
       e = .wrapUpstream (upstreamParams cfg host) (env.handshake (upstreamParams cfg host))) := by
  have hne : env.handshake (upstreamParams cfg host) ≠ .ok := by rcases hbad with h | h <;> simp [h]
  have hno : env.handshake (upstreamParams cfg host) ≠ .osError := by rcases hbad with h | h <;> simp [h]
  have hlog : ∀ e ∈ (onConnect cfg answers env host).1, e = .queueClient ack ∨ e.isAsk = true ∨
      e = .wrapUpstream (upstreamParams cfg host) (env.handshake (upstreamParams cfg host)) := fun e he =>
    (mem_onConnect cfg answers env host e he).imp_right fun h => h.imp_right fun h =>
      h.2.resolve_right fun h => hne h.1
  rw [onConnect_fail cfg answers env host hon hne] at hlog ⊢
  exact ⟨if_neg hno, rfl, rfl, rfl, rfl, rfl, hlog⟩

/-- **C11 no relay on a bad upstream.**  `verify` is OpenSSL's X.509 verdict (a parameter), `ticks` any
later schedule of the connection from the relay state the handler is left in.  Client reads are off
(`must_flush_before_shutdown`), so nothing is ever queued or sent to the upstream.  What the client
gets is the acknowledgement followed by whatever is read *raw* off the upstream descriptor; that
socket object is detached (`fileno() == -1`, never registered by the executor, so no tick reports
it readable: `∀ t ∈ ticks, t.uR = false`), and then the client gets the `200` acknowledgement, or a
prefix of it, and nothing else. -/
theorem C11_no_relay_on_bad_upstream {σ : Type} (verify : WrapParams → σ → Bool) (sit : σ)
    (cfg : Cfg) (answers : List (Option Bool)) (env : Env) (host : Str) (maxSend : Nat) (ticks : List Tick)
    (hon : (tlsInterceptEnabled cfg answers).1 = true)
    (hsec : cfg.insecure = false)
    (hssl : env.handshake = opensslSpec verify sit)
    (hbad : verify (upstreamParams cfg host) sit = false) :
    let r := onConnect cfg answers env host
    r.2.res = .teardown ∧
    ∃ s0, relayState cfg answers maxSend r.2 = some s0 ∧ s0.mustFlush = true ∧ s0.client.buffer = [ack] ∧
      let s := (Relay.run s0 ticks).1
      s.recvC = [] ∧ s.sentU = [] ∧ s.upstream.buffer = [] ∧
      s.sentC ++ s.client.buffer.flatten = ack ++ s.recvU ∧
      ((∀ t ∈ ticks, t.uR = false) → s.recvU = [] ∧ s.sentC ++ s.client.buffer.flatten = ack) := by
  have hv : (upstreamParams cfg host).verifyNone = false := by simp [upstreamParams, serverWrapParams, hsec]
  have hhs : env.handshake (upstreamParams cfg host) = .certVerification := by
    rw [hssl]; simp [opensslSpec, hv, hbad]
  obtain ⟨h1, h2, -, -, -, -, -⟩ :=
    C11_no_relay_on_bad_upstream_log cfg answers env host hon (Or.inl hhs)
  refine ⟨h1, ?_⟩
  refine ⟨Relay.st0 (relayKind cfg answers) maxSend [ack] [] true false, ?_, rfl, rfl, ?_⟩
  · simp [relayState, h1, h2]
  · have hk : relayKind cfg answers ≠ .local := by unfold relayKind; split <;> nofun
    obtain ⟨q, c, r⟩ := run_keeps_quiet ticks (Relay.st0 (relayKind cfg answers) maxSend [ack] [] true false) rfl ⟨rfl, rfl⟩
    -- the client gets what was pending followed by what is read off the upstream: `step_down_inv`
    have hd := (run_inv (step_down_inv ack) ticks (Relay.st0 (relayKind cfg answers) maxSend [ack] [] true false)
      ⟨hk, by simp [Relay.st0, D]⟩).2
    exact ⟨c, q.sentU, q.ubuf, hd, fun hall => ⟨r hall, hd.trans (by rw [r hall]; exact List.append_nil _)⟩⟩

/-- After a refused upstream, the tick that delivers the acknowledgement closes the connection.  For
`maxSend = 0` (`--max-sendbuf-size` unset): a limit below the acknowledgement's length takes several ticks. -/
theorem C11_bad_upstream_closes (k : Relay.Kind) (t : Tick) (n : Nat)
    (hw : t.cW = true) (hs : t.cSend = .sent n) (hn : ack.length ≤ n) :
    (Relay.step (Relay.st0 k 0 [ack] [] true false) t).2 = .teardown ∧
    (Relay.step (Relay.st0 k 0 [ack] [] true false) t).1.sentC = ack :=
  step_flush_whole k 0 ack t n hw hs hn (by decide)

/-- the prefixes `get_ext_config` writes, against the constants observed in the code on every run -/
theorem C11_san_prefixes : Gen.pkiSanEntryPrefix = b "DNS:" ∧ Gen.pkiSanIpEntryPrefix = b "IP:" ∧
    Gen.pkiSanHeader = b "\nsubjectAltName=" := by rw [b_ofList, b_ofList, b_ofList]; decide +kernel

theorem C11_ext_file_bytes (isIp : Str → Bool) (name : Str) :
    extConfig isIp (some [name]) none = Gen.pkiSanHeader ++ (kindPrefix (kindOf isIp name) ++ name) ∧
    sanEntries isIp [name] = [(kindOf isIp name, name)] := by
  simp [extConfig, hasNames, sanLine, sanEntries, join]

/-- **C11 SAN, address literals** (`127.0.0.1`, `[::1]` → `::1`): the signing ext-file has the
entry kind a verifying client needs. -/
theorem C11_san_ip_literal (isIp : Str → Bool) (host : Str) (h : isIp (stripBrackets host) = true) :
    extConfig isIp (some [stripBrackets host]) none = b "\nsubjectAltName=" ++ (b "IP:" ++ stripBrackets host) := by
  obtain ⟨h1, h2, h3⟩ := C11_san_prefixes
  rw [(C11_ext_file_bytes isIp _).1, h3]
  simp [kindOf, h, kindPrefix, h2]

/-- **C11 SAN, names.** -/
theorem C11_san_dns_name (isIp : Str → Bool) (host : Str) (h : isIp (stripBrackets host) = false) :
    extConfig isIp (some [stripBrackets host]) none = b "\nsubjectAltName=" ++ (b "DNS:" ++ stripBrackets host) := by
  obtain ⟨h1, h2, h3⟩ := C11_san_prefixes
  rw [(C11_ext_file_bytes isIp _).1, h3]
  simp [kindOf, h, kindPrefix, h1]

/-- the inputs of finding D16 (fixed in the code), `127.0.0.1` and `[::1]`, and a name -/
theorem C11_ip_literal_examples :
    extConfig (fun n => n == b "127.0.0.1") (some [stripBrackets (b "127.0.0.1")]) none =
      b "\nsubjectAltName=IP:127.0.0.1" ∧
    extConfig (fun n => n == b "::1") (some [stripBrackets (b "[::1]")]) none = b "\nsubjectAltName=IP:::1" ∧
    extConfig (fun _ => false) (some [stripBrackets (b "example.org")]) none =
      b "\nsubjectAltName=DNS:example.org" := by
  rw [b_ofList, b_ofList, b_ofList, b_ofList, b_ofList, b_ofList, b_ofList]; decide +kernel

/-- **C11 SAN and cache.**
1. every openssl invocation made while handling the CONNECT is one of the three of
   `gen_ca_signed_certificate` for *this* host (`IsCertCall`);
2. the certificate handed to the client-side wrap is `join(ca_cert_dir, host + '.pem')` with the
   signing key, a function of the directory and the host only; a CONNECT that ends in that wrap
   leaves the file in the cache, so the next CONNECT to the same host is warm;
3. warm cache (that file exists) ⇒ no openssl invocation at all;
4. the `-extfile` of the CA signature is exactly one `subjectAltName` entry for the bare host
   (`C11_san_ip_literal`, `C11_san_dns_name`), its `-out` the cache path of the host; the config of
   the self-signed public-key certificate names the bare host. -/
theorem C11_san (cfg : Cfg) (answers : List (Option Bool)) (env : Env) (host : Str) :
    let r := onConnect cfg answers env host
    let crt := certFilePath (cfg.caCertDir.getD []) host
    (∀ c o, Eff.openssl c o ∈ r.1 → IsCertCall cfg env host c) ∧
    (∀ k c pend o, Eff.wrapClient k c pend o ∈ r.1 → c = crt ∧ k = cfg.caSigningKeyFile.getD [] ∧ crt ∈ r.2.fs) ∧
    (crt ∈ env.fs → ∀ e ∈ r.1, e.isOpenssl = false) ∧
    (∀ tmp, (signCall cfg env host tmp).file = some (tmp, Gen.pkiSanHeader ++
              (kindPrefix (kindOf env.isIp (stripBrackets host)) ++ stripBrackets host)) ∧
            (signCall cfg env host tmp).out = crt ∧
            (pubCall cfg env host tmp).file = some (tmp, sslConfig env.isIp (some [stripBrackets host]) none)) := by
  refine ⟨fun c o hc => ?_, fun k c pend o hc => ?_, fun hwarm e he => ?_, fun tmp =>
    ⟨by simp [signCall, signCsr, (C11_ext_file_bytes env.isIp _).1], rfl, rfl⟩⟩
  · obtain ⟨effs, g, hg, h | ⟨_, h⟩⟩ := gen_mem_onConnect cfg answers env host _ hc rfl
    · exact (generate_effs cfg env host effs _ g hg _ h).2 c o rfl
    · cases h
  · obtain ⟨effs, g, hg, h | ⟨rfl, h⟩⟩ := gen_mem_onConnect cfg answers env host _ hc rfl
    · cases (generate_effs cfg env host effs _ g hg _ h).1
    · cases h
      exact ⟨rfl, rfl, generate_done cfg env host effs _ hg⟩
  · cases e with
    | openssl c o =>
      obtain ⟨effs, g, hg, h | ⟨_, h⟩⟩ := gen_mem_onConnect cfg answers env host _ he rfl
      · -- warm: generation is the single probe
        rcases generate_some cfg env host effs _ g hg with ⟨_, rfl, _⟩ | ⟨hcold, _⟩
        · cases List.mem_singleton.1 h
        · exact absurd hwarm hcold
      · cases h
    | _ => rfl

/-- **C11 inner requests.**  After a successful interception the acknowledgement has been flushed by
`client.wrap`, and later client bytes (the decrypted stream) are handled as follow-up HTTP requests
(`Relay.Kind.http`: parsed by a fresh request parser and rebuilt, the path whose semantics is
C02 / C04), never queued verbatim as they are without interception (`Relay.Kind.tunnel`). -/
theorem C11_inner_requests (cfg : Cfg) (answers : List (Option Bool)) (env : Env) (host : Str) (maxSend : Nat)
    (hres : (onConnect cfg answers env host).2.res = .sslSocket) :
    (tlsInterceptEnabled cfg answers).1 = true ∧
    (onConnect cfg answers env host).2.clientTls = true ∧ (onConnect cfg answers env host).2.upstreamTls = true ∧
    relayState cfg answers maxSend (onConnect cfg answers env host).2 =
      some (Relay.st0 .http maxSend [] [] false false) ∧
    ∃ crt, Eff.wrapClient (cfg.caSigningKeyFile.getD []) crt [ack] .ok ∈ (onConnect cfg answers env host).1 := by
  by_cases hon : (tlsInterceptEnabled cfg answers).1 = true
  · by_cases hh : env.handshake (upstreamParams cfg host) = .ok
    · rw [onConnect_ok cfg answers env host hon hh] at hres ⊢
      obtain ⟨h1, h2, h3, h4⟩ := wrapClient_ssl cfg env host hres
      refine ⟨hon, h1, h2, ?_, _, List.mem_cons_of_mem _ (List.mem_append_right _ (List.mem_cons_of_mem _ h4))⟩
      simp only [relayState, relayKind, hon] at hres ⊢
      rw [hres, h3]; rfl
    · rw [onConnect_fail cfg answers env host hon hh] at hres
      revert hres
      dsimp only
      split <;> nofun
  · have hoff : (tlsInterceptEnabled cfg answers).1 = false := by simpa using hon
    rw [onConnect_off cfg answers env host hoff] at hres
    cases hres

/-- **C11 record fragments are stutter steps.**  A TLS record may reach the proxy split over several
TCP segments: the descriptor is reported readable, `recv` raises `ssl.SSLWantReadError`.  For the
client side (`HttpProtocolHandler.handle_readables`: "try again later") and the upstream side
(`read_from_descriptors`) alike such a round resets only the per-tick trace fields, so however a
record is cut, the relay resumes from the same state when the rest arrives. -/
theorem C11_record_fragment_stutter (s : St) (t : Tick)
    (hrt : s.readsTeared = false) (hcw : t.cW = false) (huw : t.uW = false)
    (hc : t.cR = true → t.cRecv = .sslWantRead) (hu : t.uR = true → t.uRecv = .sslWantRead) :
    Relay.tick s t = ({ s with trC := none, trU := none, writesTeared := false }, .cont) := by
  -- none of the four phases moves the state, whatever it is
  have e1 (s : St) : phaseCW s t = (s, false) := by simp [phaseCW, hcw]
  have e2 (s : St) : phaseUW s t = (s, false) := by simp [phaseUW, huw]
  have e3 (s : St) : phaseCR s t = (s, .no) := by
    unfold phaseCR
    by_cases h : t.cR = true
    · simp [h, hc h, Conn.recv]
    · simp [h]
  have e4 (s : St) : phaseUR s t = (s, false) := by
    unfold phaseUR
    by_cases h : t.uR = true
    · simp [h, hu h, Conn.recv]
    · simp [h]
  simp [Relay.tick, readHalf, hrt, e1, e2, e3, e4, finish]

/-- **C11 IPv6 literal verified against the bare address.**  `CONNECT [::1]:443`: the reference name
handed to OpenSSL is `::1`; under the reference verdict a CA-trusted origin whose certificate names
the address is accepted with verification on, and `wrap_client()` follows. -/
theorem C11_ipv6_literal_verified_bare (cfg : Cfg) (env : Env)
    (hen : cfg.enabled = true) (hsec : cfg.insecure = false)
    (hssl : env.handshake = refHandshake .trusted) :
    (upstreamParams cfg (b "[::1]")).serverHostname = some (b "::1") ∧
    env.handshake (upstreamParams cfg (b "[::1]")) = .ok ∧
    (onConnect cfg [] env (b "[::1]")) =
      (.queueClient ack :: .wrapUpstream (upstreamParams cfg (b "[::1]")) .ok :: (wrapClient cfg env (b "[::1]")).1,
       (wrapClient cfg env (b "[::1]")).2) := by
  have hon : (tlsInterceptEnabled cfg []).1 = true := by
    simp [tlsInterceptEnabled, hen, chainAux, isTrue]
  have hs : stripBrackets (b "[::1]") = b "::1" := by decide +kernel
  have hb : isBracketed (b "::1") = false := by decide +kernel
  have hok : env.handshake (upstreamParams cfg (b "[::1]")) = .ok := by
    rw [hssl]
    simp [refHandshake, upstreamParams, serverWrapParams, hsec, chainOk, nameOk, hs, hb]
  refine ⟨by simp [upstreamParams, serverWrapParams, hs], hok, ?_⟩
  rw [onConnect_ok cfg [] env (b "[::1]") hon hok]
  simp [tlsInterceptEnabled, hen, chainAux]

def exCfg : Cfg :=
  { caKeyFile := some (b "/ca/key.pem"), caCertFile := some (b "/ca/cert.pem"),
    caSigningKeyFile := some (b "/ca/sign.pem"), caCertDir := some (b "/ca/certs"),
    caFile := some (b "/ca/trust.pem"), insecure := false, openssl := b "openssl" }

def exEnv (sit : CertSituation) : Env :=
  { handshake := refHandshake sit, subject := [(b "commonName", b "example.org")], fs := [],
    cmd := fun _ => .ok, tmp := fun _ => b "/tmp/x", serial := b "1", clientWrap := .ok }

example : (tlsInterceptEnabled exCfg [some true, none, some true]).1 = true := by decide
/-- a `False` anywhere turns interception off, a trailing `None` too -/
example : (tlsInterceptEnabled exCfg [some true, some false, some true]).1 = false := by decide
example : (tlsInterceptEnabled exCfg [some true, none]).1 = false := by decide
/-- the hypotheses of `C11_no_relay_on_bad_upstream` are satisfiable: a self-signed origin, verification on -/
example : exCfg.insecure = false ∧
    (exEnv .selfSigned).handshake =
      opensslSpec (fun p s => chainOk s && (!p.checkHostname || nameOk s p)) CertSituation.selfSigned ∧
    (fun p s => chainOk s && (!p.checkHostname || nameOk s p)) (upstreamParams exCfg (b "example.org"))
      CertSituation.selfSigned = false := by
  refine ⟨rfl, ?_, by decide⟩
  funext p
  simp [exEnv, refHandshake, opensslSpec, chainOk]
example : (onConnect exCfg [] (exEnv .trusted) (b "example.org")).2.res = .sslSocket ∧
    ((onConnect exCfg [] (exEnv .trusted) (b "example.org")).1.filter Eff.isOpenssl).length = 3 := by
  rw [b_ofList]; decide +kernel
example : ((onConnect exCfg [] { exEnv .trusted with fs := [b "/ca/certs/example.org.pem"] }
    (b "example.org")).1.filter Eff.isOpenssl).length = 0 := by rw [b_ofList, b_ofList]; decide +kernel
/-- a wrong-name origin is refused only because `check_hostname` is on -/
example : (onConnect exCfg [] (exEnv .wrongName) (b "example.org")).2.res = .teardown ∧
    (onConnect { exCfg with insecure := true } [] (exEnv .wrongName) (b "example.org")).2.res = .sslSocket := by
  rw [b_ofList]; decide +kernel

/-- **C11 (partial).**  Full statement of the property: *with interception enabled, a
client that CONNECTs to a host is presented a certificate naming that host and
chaining to the configured CA; what it then sends inside TLS reaches the origin over
a separately verified TLS session with the semantics of C02 and the response returns
intact; if the origin's certificate fails verification against the configured trust
store, no application data is relayed in either direction unless the operator
disabled verification; connections a plugin opts out of are tunnelled opaquely.*

Proved here: the refusal half
(`C11_no_relay_on_bad_upstream`), the settings OpenSSL is given
(`C11_verify_settings`), what the leaf is asked to name and where it is cached
(`C11_san`), the order of the two handshakes (`C11_order`), opt-out
(`C11_optout_opaque`) and the routing of decrypted requests (`C11_inner_requests`).

Missing (trusted / delegated): that OpenSSL's verdict is the X.509 / RFC 6125 one and
that the `openssl` CLI turns the argv and ext-file into a certificate with that SAN
signed by the CA key (parameters `Env.handshake`, `Env.cmd`; exercised with real
handshakes by the correspondence runs); record protection; the C02 semantics of the
inner requests (C02/C04's models); which names are address literals is the parameter
`Env.isIp` (the `ipaddress` module).  Findings D16 / D16b (IP-literal targets) are fixed in the
code; `C11_san_ip_literal` and `C11_ipv6_literal_verified_bare` state the behaviour they asked for. -/
theorem C11_property_partial (cfg : Cfg) (answers : List (Option Bool)) (env : Env) (host : Str) (maxSend : Nat) :
    ((tlsInterceptEnabled cfg answers).1 = true →
      (∃ rest, (onConnect cfg answers env host).1 =
          .queueClient ack :: ((tlsInterceptEnabled cfg answers).2 ++
            .wrapUpstream (upstreamParams cfg host) (env.handshake (upstreamParams cfg host)) :: rest) ∧
          (∀ e ∈ rest, e.isGen = true) ∧ (env.handshake (upstreamParams cfg host) ≠ .ok → rest = [])) ∧
      ((upstreamParams cfg host).verifyNone = true ↔ cfg.insecure = true) ∧
      ((upstreamParams cfg host).checkHostname = true ↔ cfg.insecure = false) ∧
      (upstreamParams cfg host).serverHostname = some (stripBrackets host) ∧
      (upstreamParams cfg host).caFile = cfg.caFile) ∧
    ((some false ∈ answers ∨ cfg.enabled = false) →
      (onConnect cfg answers env host).2.res = .plain ∧
      relayState cfg answers maxSend (onConnect cfg answers env host).2 = some (Relay.initTunnel maxSend)) ∧
    (∀ c o, Eff.openssl c o ∈ (onConnect cfg answers env host).1 → IsCertCall cfg env host c) := by
  refine ⟨fun hon => ⟨C11_order cfg answers env host hon, ?_⟩, fun h => ?_, (C11_san cfg answers env host).1⟩
  · obtain ⟨a, b, c, d⟩ := C11_verify_settings cfg host
    exact ⟨c, d, a, b⟩
  · obtain ⟨a, _, _, _, _, f⟩ := C11_optout_opaque cfg answers env host maxSend h
    exact ⟨a, f⟩

end Px.Intercept
